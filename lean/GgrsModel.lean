import GgrsModel.Generated.Consts
import GgrsModel.Generated.Shapes
import GgrsModel.Generated.Sites
import GgrsModel.Model.Basic
import GgrsModel.Model.Builder
import GgrsModel.Model.Codec
import GgrsModel.Model.InputQueue
import GgrsModel.Model.Inventory
import GgrsModel.Model.SiteInventory
import GgrsModel.Model.P2P
import GgrsModel.Model.Protocol
import GgrsModel.Model.Spectator
import GgrsModel.Model.SyncLayer
import GgrsModel.Model.SyncTest
import GgrsModel.Proofs.Checksums
import GgrsModel.Proofs.Consistent
import GgrsModel.Proofs.ConsistentSp
import GgrsModel.Proofs.DelayStep
import GgrsModel.Proofs.DelayDrop
import GgrsModel.Proofs.Delta
import GgrsModel.Proofs.Demo
import GgrsModel.Proofs.Pair
import GgrsModel.Proofs.HostSpec
import GgrsModel.Proofs.PairLockstep
import GgrsModel.Proofs.Triple
import GgrsModel.Proofs.Earliest
import GgrsModel.Proofs.DropSpec
import GgrsModel.Proofs.DropGame
import GgrsModel.Proofs.EntryDrop
import GgrsModel.Proofs.LockstepDrop
import GgrsModel.Proofs.DropWorld
import GgrsModel.Proofs.DropSession
import GgrsModel.Proofs.DropSync
import GgrsModel.Proofs.Endpoint
import GgrsModel.Proofs.EntryPoint
import GgrsModel.Proofs.Events
import GgrsModel.Proofs.Frame
import GgrsModel.Proofs.Glue
import GgrsModel.Proofs.GlueDrop
import GgrsModel.Proofs.Link
import GgrsModel.Proofs.Lockstep
import GgrsModel.Proofs.LockstepNet
import GgrsModel.Proofs.LockstepNetDrop
import GgrsModel.Proofs.Monad
import GgrsModel.Proofs.Monotone
import GgrsModel.Proofs.PollCore
import GgrsModel.Proofs.Predict
import GgrsModel.Proofs.Queue
import GgrsModel.Proofs.RecvBound
import GgrsModel.Proofs.RecvStream
import GgrsModel.Proofs.RecvStream2
import GgrsModel.Proofs.RecvStream3
import GgrsModel.Proofs.Replay
import GgrsModel.Proofs.Rle
import GgrsModel.Proofs.Session
import GgrsModel.Proofs.Shape
import GgrsModel.Proofs.ShapeSp
import GgrsModel.Proofs.SpecHost
import GgrsModel.Proofs.SpecRing
import GgrsModel.Proofs.SyncTestProof
import GgrsModel.Proofs.SyncTestWindow
import GgrsModel.Proofs.Timeline
import GgrsModel.Proofs.Varint
import GgrsModel.Proofs.World
import GgrsModel.Proofs.Calls
import GgrsModel.Proofs.Assoc
import GgrsModel.Proofs.Rows
import GgrsModel.Proofs.GameCells
import GgrsModel.Properties.C01
import GgrsModel.Properties.C02
import GgrsModel.Properties.C03
import GgrsModel.Properties.C04
import GgrsModel.Properties.C05
import GgrsModel.Properties.C06
import GgrsModel.Properties.C07
import GgrsModel.Properties.C08
import GgrsModel.Properties.C09
import GgrsModel.Properties.C10
import GgrsModel.Properties.C11
import GgrsModel.Properties.C12
import GgrsModel.Properties.C13
import GgrsModel.Properties.C14
import GgrsModel.Properties.C15
import GgrsModel.Properties.C16
import GgrsModel.Properties.C17
import GgrsModel.Properties.C18
