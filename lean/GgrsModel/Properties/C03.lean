/-
C03 — Input status is truthful.

`InputQueue.input` is `InputQueue::input`, `synchronizedInputsLoop` is the loop of
`SyncLayer::synchronized_inputs`. The per-call theorems (`C03_confirmed`, `C03_predicted`,
`C03_disconnected_iff`, `C03_queue_never_disconnected`, `C03_confirmed_frame_le`) tie every status
handed out to the state it was computed from; that the value stored for a frame *is* the player's
real input is the ring refinement in Properties/C11.lean.

`C03_status_truthful` and `C03_confirmed_final` are the history-level statements for one player's
queue, over EVERY sequence of `add_input`, `set_frame_delay`, `discard_confirmed_frames`, `input`
and `reset_prediction` calls (Proofs/Predict.lean; the two side conditions are what the sessions
guarantee: a discard stays below the newest input, requests are non-negative and do not go
backwards between two resets): a Confirmed answer is the stream's real value for a frame that has
been received, a Predicted answer is given only for a frame that has not been received and is the
predictor applied to the newest received input (the default input if there is none).

Session level: `C03_confirmed_monotone` (no disconnected players) and `C03_status_with_drops`.
-/
import GgrsModel.Model.Inventory
import GgrsModel.Model.Sites.InputQueue
import GgrsModel.Model.Sites.SyncLayer
import GgrsModel.Model.Sites.P2pSession
import GgrsModel.Model.P2P
import GgrsModel.Proofs.Predict
import GgrsModel.Proofs.Monotone
import GgrsModel.Proofs.DropWorld

namespace Ggrs.InputQueue

/-- A `Confirmed` input is the one stored in the ring for exactly the requested frame, and the
queue is not in prediction mode. -/
theorem C03_confirmed (pred : Predictor) (q q' : InputQueue) (f : Frame) (v : Input)
    (h : q.input pred f = .ok (q', v, .confirmed)) :
    ∃ pos, (rget q.inputs pos).frame = f ∧ (rget q.inputs pos).input = v ∧ q.prediction.frame < 0 := by
  obtain ⟨_, _, hc⟩ := input_ok h
  rcases hc with ⟨hp, _, hslot, _, hv, _⟩ | ⟨_, _, _, _, hst⟩ | ⟨_, _, _, hst⟩
  · exact ⟨_, hslot, hv.symm, hp⟩
  · cases hst
  · cases hst

/-- A `Predicted` input is the queue's current prediction, which is either carried over unchanged
(sticky prediction) or freshly made: the predictor applied to the newest input in the queue, or
the default input if there is none (or frame 0 is requested). -/
theorem C03_predicted (pred : Predictor) (q q' : InputQueue) (f : Frame) (v : Input)
    (h : q.input pred f = .ok (q', v, .predicted)) :
    v = q'.prediction.input ∧
    (q.prediction.frame ≥ 0 → q'.prediction = q.prediction) ∧
    (q.prediction.frame < 0 →
      (f = 0 ∨ q.lastAddedFrame = NULL_FRAME → v = 0) ∧
      (¬ (f = 0 ∨ q.lastAddedFrame = NULL_FRAME) → v = pred.predict (rget q.inputs (prevPos q.head)).input)) := by
  obtain ⟨_, _, hc⟩ := input_ok h
  rcases hc with ⟨_, _, _, _, _, hst⟩ | ⟨hp, _, rfl, hv, _⟩ | ⟨hp, rfl, hv, _⟩
  · cases hst
  · refine ⟨hv, fun hge => absurd hp (Int.not_lt.mpr hge), fun _ => ⟨fun hz => ?_, fun hz => ?_⟩⟩
    · rw [hv]
      show (if _ then _ else _ : PlayerInput).input = 0
      rw [if_pos hz]
    · rw [hv]
      show (if _ then _ else _ : PlayerInput).input = _
      rw [if_neg hz]
  · exact ⟨hv, fun _ => rfl, fun hlt => absurd hlt hp⟩

end Ggrs.InputQueue

namespace Ggrs.SyncLayer

/-- A `Disconnected` input is the default input, for a player that is flagged disconnected as of a
frame before the one being simulated. Stated on one step of the loop: the head player gets
`(0, Disconnected)` exactly when that condition holds; otherwise its queue is asked (and the
queue never answers `Disconnected`). -/
theorem C03_disconnected_iff (pred : Predictor) (cur : Frame) (cs : ConnStatus) (rest : List ConnStatus)
    (i : Nat) (qs : List InputQueue) (acc : List (Input × InputStatus)) :
    (cs.disconnected = true ∧ cs.lastFrame < cur →
      synchronizedInputsLoop pred cur (cs :: rest) i qs acc =
        synchronizedInputsLoop pred cur rest (i + 1) qs ((0, .disconnected) :: acc)) ∧
    (¬ (cs.disconnected = true ∧ cs.lastFrame < cur) →
      synchronizedInputsLoop pred cur (cs :: rest) i qs acc =
        (do
          ensure (i < qs.length) "synchronized_inputs: handle out of range"
          let (q, v, st) ← (rget qs i).input pred cur
          synchronizedInputsLoop pred cur rest (i + 1) (rset qs i q) ((v, st) :: acc))) := by
  constructor
  · rintro ⟨h1, h2⟩; simp [synchronizedInputsLoop, h1, h2]
  · intro h
    have : (cs.disconnected && decide (cs.lastFrame < cur)) = false := by
      by_cases h1 : cs.disconnected = true
      · have : ¬ cs.lastFrame < cur := fun h2 => h ⟨h1, h2⟩
        simp [h1, this]
      · simp [h1]
    simp [synchronizedInputsLoop, this]

/-- The input queue never produces the status `Disconnected`. -/
theorem C03_queue_never_disconnected (pred : Predictor) (q q' : InputQueue) (f : Frame) (v : Input) :
    q.input pred f ≠ .ok (q', v, .disconnected) := by
  intro h
  obtain ⟨_, _, hc⟩ := InputQueue.input_ok h
  rcases hc with ⟨_, _, _, _, _, hst⟩ | ⟨_, _, _, _, hst⟩ | ⟨_, _, _, hst⟩ <;> cases hst

end Ggrs.SyncLayer

namespace Ggrs.P2P

/-- `confirmed_frame()` is the minimum of the last frames of the connected players: it is at most
the last frame of every connected player (so every frame at or below it has been received from
everybody who is still connected). -/
theorem C03_confirmed_frame_le (s : P2P) (c : Frame) (h : s.confirmedFrame = .ok c) :
    ∀ cs ∈ s.localConnectStatus, cs.disconnected = false → c ≤ cs.lastFrame :=
  (confirmedFrame_le_mem h).2

end Ggrs.P2P

namespace Ggrs
open InputQueue

/-- **C03, status is truthful (queue level, all histories).** In every state reachable from a new
queue, whatever `input` answers for a request `req` is truthful. -/
theorem C03_status_truthful (pr : Predictor) (st : QState) (hr : QStar pr ⟨InputQueue.new, {}, []⟩ st)
    (req : Frame) (v : Input) (status : InputStatus) (q' : InputQueue) (h0 : 0 ≤ req)
    (hm : st.q.lastRequestedFrame = NULL_FRAME ∨ st.q.lastRequestedFrame ≤ req)
    (hin : st.q.input pr req = .ok (q', v, status)) :
    (status = .confirmed ∧ req < st.s.vals.length ∧ v = st.s.vals.getD req.toNat 0) ∨
    (status = .predicted ∧ (st.s.vals.length : Int) ≤ req ∧ v = predValue pr st.s.vals) := by
  have h := PInv_run pr _ st (PInv_new pr) hr
  rcases (PInv_input pr _ _ _ _ req v status h h0 hm hin).2 with ⟨a, _, b, c, _⟩ | ⟨a, b, c, _⟩
  · exact Or.inl ⟨a, b, c⟩
  · exact Or.inr ⟨a, b, c⟩

theorem submit_prefix (s : QSpec) (uf : Int) (v : Input) : ∃ ext, (s.submit uf v).1.vals = s.vals ++ ext := by
  rcases submit_cases s uf v with ⟨_, hv⟩ | ⟨_, _, hv⟩
  · exact ⟨[], hv.trans (List.append_nil _).symm⟩
  · exact ⟨_, hv.trans (List.append_assoc _ _ _)⟩

/-- **C03, received inputs are final.** No operation ever changes the value the stream holds for a
frame: later states extend the stream, they never rewrite it. -/
theorem C03_confirmed_final (pr : Predictor) (st st' : QState) (hr : QStar pr st st') :
    ∃ ext, st'.s.vals = st.s.vals ++ ext := by
  induction hr with
  | refl => exact ⟨[], by simp⟩
  | step st' st'' _ hs ih =>
    obtain ⟨e1, h1⟩ := ih
    cases hs with
    | add uf v q' fr _ =>
      obtain ⟨e2, h2⟩ := submit_prefix st'.s uf v
      exact ⟨e1 ++ e2, by show (st'.s.submit uf v).1.vals = _; rw [h2, h1, List.append_assoc]⟩
    | setDelay d q' fills _ =>
      obtain ⟨k, h2, _⟩ := setDelay_facts st'.s d
      exact ⟨e1 ++ _, by show (st'.s.setDelay d).1.vals = _; rw [h2, h1, List.append_assoc]⟩
    | discard f q' _ _ => exact ⟨e1, h1⟩
    | inputConfirmed req v q' _ _ _ => exact ⟨e1, h1⟩
    | inputPredicted req v q' _ _ _ => exact ⟨e1, h1⟩
    | reset => exact ⟨e1, h1⟩

/-! A new queue asked for frame 0 answers with the default input, status Predicted. -/
example : (InputQueue.new.input .repeatLast 0).map (fun r => (r.2.1, r.2.2)) = .ok (0, .predicted) := by decide

end Ggrs

namespace Ggrs

/-- **C03, `confirmed_frame()` never decreases (rollback mode, no disconnected players).** Along
any run of local input submissions, remote-input arrivals, `advance_frame` calls, cell writes and
`set_input_delay` calls: every player's `last_frame` is the newest frame its queue holds
(`status_top`) and the queues' streams only grow. -/
theorem C03_confirmed_monotone (x y : P2P × TLState) (h : HInv x) (hr : DStar x y) (cx cy : Frame)
    (hcx : x.1.confirmedFrame = .ok cx) (hcy : y.1.confirmedFrame = .ok cy) : cx ≤ cy :=
  confirmedFrame_mono x y h hr cx cy hcx hcy

end Ggrs

namespace Ggrs

/-- **C03, statuses are truthful with dropped players (rollback sessions).** After any run of the
world with drops (`XStep`), whenever a call simulates a new frame `c`, then for every player: the
status is Disconnected (with the blank input) exactly when the player is marked disconnected with a
last frame before `c`; otherwise it is Confirmed with the real input of frame `c`, which has
arrived, or Predicted with the predictor applied to the newest input that has arrived, the input of
`c` not being among them. -/
theorem C03_status_with_drops (x y : P2P × TLState) (h0 : XInv x) (hrun : XStar x y)
    (now : Nat) (s' : P2P) (reqs' : List Request)
    (hadv : y.1.advanceRollbackFrame now [] = .ok (s', reqs'))
    (hnew : s'.sync.currentFrame ≠ y.1.sync.currentFrame) :
    ∃ (gh : DGhost) (reqs1 : List Request) (c : Nat) (ins : List (Input × InputStatus)),
      y.1.sync.currentFrame = (c : Int) ∧ reqs' = reqs1 ++ [.advance ins] ∧ ins.length = y.1.sync.queues.length ∧
      ∀ p, p < ins.length →
        ((ins.getD p default).2 = .disconnected ↔ Skip (rget y.1.localConnectStatus p) c) ∧
        (Skip (rget y.1.localConnectStatus p) c → ins.getD p default = (0, .disconnected)) ∧
        (¬ Skip (rget y.1.localConnectStatus p) c →
          ((ins.getD p default).2 = .confirmed ∧ c < (gh.specs p).vals.length ∧
            (ins.getD p default).1 = (gh.specs p).vals.getD c 0) ∨
          ((ins.getD p default).2 = .predicted ∧ (gh.specs p).vals.length ≤ c ∧
            (ins.getD p default).1 = predValue y.1.pred (gh.specs p).vals)) := by
  obtain ⟨gh, st0, h⟩ := XInv_run x y h0 hrun
  obtain ⟨s1, reqs1, gh1, gh2, gh', hset, _, _, _, _, _, _, _, _, _, hcase⟩ :=
    advanceRollbackFrame_specD y.1 s' gh y.2 [] reqs' now st0 h hadv
  rcases hcase with ⟨_, hcur⟩ | ⟨c, ins, hc, hr, hil, hok, _, _, hcur⟩
  · exact absurd hcur hnew
  · refine ⟨gh2, reqs1, c, ins, hc, hr, hil, ?_⟩
    intro p hp
    obtain ⟨a, b⟩ := hok p hp
    refine ⟨⟨fun hd => ?_, fun hsk => by rw [a hsk]⟩, a, b⟩
    by_cases hsk : Skip (rget y.1.localConnectStatus p) (c : Int)
    · exact hsk
    · rcases b hsk with ⟨e, _⟩ | ⟨e, _⟩ <;> rw [e] at hd <;> cases hd

end Ggrs
