/-
C06 — A spectator replays exactly the host's confirmed input sequence.

`inputsAtFrame` / `advanceFrame` model `SpectatorSession::inputs_at_frame` / `advance_frame`.

Spectator's side: `C06_replay` (on `SpecInv_run`, `advanceAfterPoll_spec`, Proofs/SpecRing.lean), for
every interleaving of arriving frames (each the players' Input events of the next frame of the host's
sequence `Hs` — that they arrive complete, once and in order is `C05_stream_intact`) and
`advance_frame` calls; `C06_slot_exact`, `C06_values_and_status`: one lookup, every state.
Host's side: `C06_host_rows` (`_delay`, `_drops`; on Proofs/SpecHost.lean, DropSpec.lean): what
`send_confirmed_inputs_to_spectators` offers; `C06_lockstep_net` (`_delay`, `_drops`): the same for
a lockstep host, together with what it sends to its remote endpoints.
`C06_spectator_replays_host_streams`: the product of a rollback-mode host and its spectator, the
link replaced by what `C06_host_rows` and `C05_stream_intact` prove about it.
Not covered by a theorem (decided on traces): the Disconnected statuses the spectator hands out
against the host's view (the status clause is `C06_values_and_status`), non-interference of
attached spectators, the product with dropped players.
-/
import GgrsModel.Model.Inventory
import GgrsModel.Model.Sites.SpectatorSession
import GgrsModel.Model.Sites.P2pSession
import GgrsModel.Model.Sites.Protocol
import GgrsModel.Model.Spectator
import GgrsModel.Proofs.Monad
import GgrsModel.Proofs.SpecRing
import GgrsModel.Proofs.SpecHost
import GgrsModel.Proofs.DelayStep
import GgrsModel.Proofs.LockstepNet
import GgrsModel.Proofs.DropSpec
import GgrsModel.Proofs.LockstepNetDrop
import GgrsModel.Proofs.HostSpec
import GgrsModel.Proofs.Demo

namespace Ggrs.Spectator

/-- Inputs are only handed out from a ring slot that holds exactly the requested frame: an
overwritten slot (host at least one buffer length ahead) yields `SpectatorTooFarBehind`, a slot
not yet filled yields `PredictionThreshold` — never the inputs of another frame. -/
theorem C06_slot_exact (s : Spectator) (f : Frame) (r : Except GgrsError (List (Input × InputStatus)))
    (h : s.inputsAtFrame f = .ok r) :
    let slot := rget s.inputs (frameIdx f SPECTATOR_BUFFER_SIZE)
    ((rget slot 0).frame < f → r = .error .predictionThreshold) ∧
    ((rget slot 0).frame > f → r = .error .spectatorTooFarBehind) ∧
    ((rget slot 0).frame = f → ∃ ins, r = .ok ins ∧ ins.map (·.1) = slot.map (·.input)) := by
  unfold inputsAtFrame at h
  simp only at h
  obtain ⟨_, h⟩ := ensure_bind_ok h
  simp only
  by_cases h1 : (rget (rget s.inputs (frameIdx f SPECTATOR_BUFFER_SIZE)) 0).frame < f
  · rw [if_pos h1] at h
    exact ⟨fun _ => (pure_ok h).symm, fun h2 => by omega, fun h3 => by omega⟩
  · rw [if_neg h1] at h
    by_cases h2 : (rget (rget s.inputs (frameIdx f SPECTATOR_BUFFER_SIZE)) 0).frame > f
    · rw [if_pos h2] at h
      exact ⟨fun h' => absurd h' h1, fun _ => (pure_ok h).symm, fun h3 => by omega⟩
    · rw [if_neg h2] at h
      refine ⟨fun h' => absurd h' h1, fun h' => absurd h' h2, fun _ => ⟨_, (pure_ok h).symm, ?_⟩⟩
      simp only [List.map_map, Function.comp_def]
      exact map_zipIdx_fst _ (fun (x : PlayerInput) => x.input) 0

/-- What is handed out for a frame whose slot is intact: per player, the input stored for that
frame, with status `Disconnected` exactly when the host has that player disconnected as of an
earlier frame, `Confirmed` otherwise (never `Predicted`). -/
theorem C06_values_and_status (s : Spectator) (f : Frame)
    (hslot : (rget (rget s.inputs (frameIdx f SPECTATOR_BUFFER_SIZE)) 0).frame = f)
    (hne : (rget s.inputs (frameIdx f SPECTATOR_BUFFER_SIZE)).length > 0) :
    s.inputsAtFrame f = .ok (.ok ((rget s.inputs (frameIdx f SPECTATOR_BUFFER_SIZE)).zipIdx.map fun (pi, h) =>
      (pi.input, if (rget s.hostConnectStatus h).disconnected && (rget s.hostConnectStatus h).lastFrame < f
        then InputStatus.disconnected else InputStatus.confirmed))) := by
  unfold inputsAtFrame
  simp only [ensure, hne, decide_true, if_true, bind, Except.bind, pure, Except.pure]
  have h1 : ¬ (rget (rget s.inputs (frameIdx f SPECTATOR_BUFFER_SIZE)) 0).frame < f := by
    rw [hslot]; exact Int.lt_irrefl _
  have h2 : ¬ (rget (rget s.inputs (frameIdx f SPECTATOR_BUFFER_SIZE)) 0).frame > f := by
    rw [hslot]; exact Int.lt_irrefl _
  simp only [h1, h2, if_false]

end Ggrs.Spectator

namespace Ggrs.Spectator

/-- **C06, replay (spectator side, all histories).** A state of the run is `(s, Hs, served)`: the
spectator, the rows of the host's sequence that have arrived, the number of frames handed out.
From a freshly built spectator, after any interleaving of arrivals of the next row and
`advance_frame` calls, the 60-slot ring holds the newest rows of `Hs` (`SpecInv`), and one more call
(its part after the poll) either hands out rows `served, served + 1, …` of `Hs` in order without gap
or repeat (`AdvOk`) — one, or `min(catchup_speed, frames behind, 59)` while more than
`max_frames_behind` are buffered — or fails with nothing consumed: NotSynchronized;
PredictionThreshold only if row `served` has not arrived; SpectatorTooFarBehind only if the host has
overwritten it. -/
theorem C06_replay (numPlayers : Nat) (host : Endpoint) (mfb cs : Nat) (hn : numPlayers > 0)
    (y : Spectator × List (List Input) × Nat)
    (hrun : SpStar (Spectator.new numPlayers host mfb cs, [], 0) y)
    (s' : Spectator) (res : Except GgrsError (List Request)) (hadv : y.1.advanceAfterPoll = .ok (s', res)) :
    SpecInv y.1 y.2.1 y.2.2 ∧
    (∀ reqs, res = .ok reqs → AdvOk y.2.1 y.2.2 reqs ∧ SpecInv s' y.2.1 (y.2.2 + reqs.length) ∧
      reqs.length = (if y.2.1.length - y.2.2 > y.1.maxFramesBehind
        then min (min y.1.catchupSpeed (y.2.1.length - y.2.2)) (SPECTATOR_BUFFER_SIZE - 1) else NORMAL_SPEED)) ∧
    (∀ e, res = .error e → SpecInv s' y.2.1 y.2.2 ∧
      (e = .notSynchronized ∨ (e = .predictionThreshold ∧ y.2.1.length ≤ y.2.2) ∨
       (e = .spectatorTooFarBehind ∧ y.2.2 + SPECTATOR_BUFFER_SIZE < y.2.1.length))) := by
  have h0 : SpecInv (Spectator.new numPlayers host mfb cs) [] 0 :=
    ⟨specRing_new numPlayers host mfb cs hn, rfl, Nat.le_refl _⟩
  have h := SpecInv_run _ y h0 hrun
  exact ⟨h, advanceAfterPoll_spec y.1 s' y.2.1 y.2.2 res h hadv⟩

end Ggrs.Spectator

namespace Ggrs

/-- **C06, the host's side (rollback mode, no disconnected players).** After any run of `SStep`s, one
more call offers its spectator endpoints (`Offers`: one `send_input` + `send_all_messages` per running
spectator endpoint and frame) exactly the frames `next_spectator_frame, next_spectator_frame + 1, …`
in this order, each the row of every player's real input of that frame (`rowMap`: the values the
host's own queues hold), never beyond `confirmed_frame()`, and nothing else in the call moves
`next_spectator_frame` — so over a run the spectators are offered frames 0, 1, 2, … without gap or
repeat. -/
theorem C06_host_rows (x y : P2P × TLState) (h0 : ∃ gh, SessInv x.1 gh x.2 []) (hn : 0 ≤ x.1.nextSpectatorFrame)
    (hrun : SStar x y) (now : Nat) (s' : P2P) (reqs' : List Request)
    (hadv : y.1.advanceRollbackFrame now [] = .ok (s', reqs')) :
    ∃ (gh gh1 : Ghost) (confirmed : Frame) (s1 s2 : P2P), SessInv y.1 gh y.2 [] ∧ gh1.specs = gh.specs ∧
      y.1.confirmedFrame = .ok confirmed ∧ s1.nextSpectatorFrame = y.1.nextSpectatorFrame ∧
      Offers gh1 y.1.sync.queues.length now s1 s2 ∧ s'.nextSpectatorFrame = s2.nextSpectatorFrame ∧
      y.1.nextSpectatorFrame ≤ s'.nextSpectatorFrame ∧
      s'.nextSpectatorFrame ≤ max y.1.nextSpectatorFrame (confirmed + 1) := by
  obtain ⟨gh, hy⟩ := SessInv_run x y h0 hrun
  have hny := nsf_run x y h0 hn hrun
  obtain ⟨confirmed, s1, s2, gh1, hconf, hsp, hn1, _, hoff, hn', hl1, hl2⟩ :=
    rollbackTick_offers y.1 s' gh y.2 [] reqs' now hy hny hadv
  exact ⟨gh, gh1, confirmed, s1, s2, hy, hsp, hconf, hn1, hoff, hn', hl1, hl2⟩

end Ggrs

namespace Ggrs

/-- `C06_host_rows` for runs that also contain `set_input_delay` calls of the host's local players. -/
theorem C06_host_rows_delay (x y : P2P × TLState) (h0 : HInv x) (hrun : DStar x y)
    (now : Nat) (s' : P2P) (reqs' : List Request) (hadv : y.1.advanceRollbackFrame now [] = .ok (s', reqs')) :
    ∃ (gh gh1 : Ghost) (confirmed : Frame) (s1 s2 : P2P), SessInv y.1 gh y.2 [] ∧ gh1.specs = gh.specs ∧
      y.1.confirmedFrame = .ok confirmed ∧ s1.nextSpectatorFrame = y.1.nextSpectatorFrame ∧
      Offers gh1 y.1.sync.queues.length now s1 s2 ∧ s'.nextSpectatorFrame = s2.nextSpectatorFrame ∧
      y.1.nextSpectatorFrame ≤ s'.nextSpectatorFrame ∧
      s'.nextSpectatorFrame ≤ max y.1.nextSpectatorFrame (confirmed + 1) := by
  obtain ⟨⟨gh, hy, _⟩, hny⟩ := HInv_run x y h0 hrun
  obtain ⟨confirmed, s1, s2, gh1, hconf, hsp, hn1, _, hoff, hn', hl1, hl2⟩ :=
    rollbackTick_offers y.1 s' gh y.2 [] reqs' now hy hny hadv
  exact ⟨gh, gh1, confirmed, s1, s2, hy, hsp, hconf, hn1, hoff, hn', hl1, hl2⟩

end Ggrs

namespace Ggrs

/-- **C06 and C11, the network side of a lockstep session (no disconnected players).** After any run
of `LkStep`s, one more call hands its remote endpoints only consecutive, complete frames carrying the
local players' queue inputs (`Sends`) and offers its spectators the next frames in order, each the
row of every player's real input (`Offers`), never beyond
`min(confirmed_frame(), current_frame() - 1)`. -/
theorem C06_lockstep_net (x y : P2P × TLState) (h0 : LkNetInv x) (hrun : LkStar x y)
    (now : Nat) (s' : P2P) (reqs' : List Request) (hadv : y.1.advanceLockstepFrame now [] = .ok (s', reqs')) :
    ∃ (gh gh1 gh' : Ghost) (sA sB sC sD : P2P), LkInv y.1 gh y.2 ∧ LkInv s' gh' (execReqs y.2 reqs') ∧
      gh'.specs = gh1.specs ∧ (∀ p, PrefixOf (gh.specs p).vals (gh1.specs p).vals) ∧
      sA.lastSentOutgoingInputFrame = y.1.lastSentOutgoingInputFrame ∧ Sends gh1 now sA sB ∧
      s'.lastSentOutgoingInputFrame = sB.lastSentOutgoingInputFrame ∧
      sC.nextSpectatorFrame = y.1.nextSpectatorFrame ∧ Offers gh1 y.1.sync.queues.length now sC sD ∧
      s'.nextSpectatorFrame = sD.nextSpectatorFrame := by
  obtain ⟨⟨gh, hl, hg⟩, hn⟩ := LkNetInv_run x y h0 hrun
  obtain ⟨gh1, gh', sA, sB, sC, sD, hl', _, _, hsp, hpre, a1, a2, a3, b1, b2, b3⟩ :=
    lockstepTick_net y.1 s' gh y.2 now reqs' hl hg hn hadv
  exact ⟨gh, gh1, gh', sA, sB, sC, sD, hl, hl', hsp, hpre, a1, a2, a3, b1, b2, b3⟩

end Ggrs

namespace Ggrs

/-- `C06_lockstep_net` for runs that also contain `set_input_delay` calls of local players. -/
theorem C06_lockstep_net_delay (x y : P2P × TLState) (h0 : LkNetInv x) (hrun : DLkStar x y)
    (now : Nat) (s' : P2P) (reqs' : List Request) (hadv : y.1.advanceLockstepFrame now [] = .ok (s', reqs')) :
    ∃ (gh gh1 gh' : Ghost) (sA sB sC sD : P2P), LkInv y.1 gh y.2 ∧ LkInv s' gh' (execReqs y.2 reqs') ∧
      gh'.specs = gh1.specs ∧ (∀ p, PrefixOf (gh.specs p).vals (gh1.specs p).vals) ∧
      sA.lastSentOutgoingInputFrame = y.1.lastSentOutgoingInputFrame ∧ Sends gh1 now sA sB ∧
      s'.lastSentOutgoingInputFrame = sB.lastSentOutgoingInputFrame ∧
      sC.nextSpectatorFrame = y.1.nextSpectatorFrame ∧ Offers gh1 y.1.sync.queues.length now sC sD ∧
      s'.nextSpectatorFrame = sD.nextSpectatorFrame := by
  obtain ⟨⟨gh, hl, hg⟩, hn⟩ := LkNetInv_drun x y h0 hrun
  obtain ⟨gh1, gh', sA, sB, sC, sD, hl', _, _, hsp, hpre, a1, a2, a3, b1, b2, b3⟩ :=
    lockstepTick_net y.1 s' gh y.2 now reqs' hl hg hn hadv
  exact ⟨gh, gh1, gh', sA, sB, sC, sD, hl, hl', hsp, hpre, a1, a2, a3, b1, b2, b3⟩

end Ggrs

namespace Ggrs

/-- **C06/C07, the host's side with dropped players (rollback sessions).** After any run of the
world with drops (`XStep`: also accepted `disconnect_player` calls, Disconnected events, adopted
cut-offs), one more call offers its spectator endpoints exactly the frames `next_spectator_frame,
next_spectator_frame + 1, …` in this order, never beyond `confirmed_frame()` (the minimum over the
players still connected), each together with the host's connection statuses, and each the row
`rowMapD`: for a player marked disconnected with a last frame before the offered frame the blank
input that carries no frame — which the spectator turns into status Disconnected — and for everybody
else the real input of that frame. That is what the host's own game was (re-)simulated with
(`C07_final_timeline`). -/
theorem C06_host_rows_drops (x y : P2P × TLState) (h0 : XInv x) (hn : 0 ≤ x.1.nextSpectatorFrame)
    (hrun : XStar x y) (now : Nat) (s' : P2P) (reqs' : List Request)
    (hadv : y.1.advanceRollbackFrame now [] = .ok (s', reqs')) :
    ∃ (gh1 : DGhost) (confirmed : Frame) (s1 s2 : P2P),
      y.1.confirmedFrame = .ok confirmed ∧ s1.nextSpectatorFrame = y.1.nextSpectatorFrame ∧
      OffersD gh1 y.1.localConnectStatus y.1.sync.queues.length now s1 s2 ∧
      s'.nextSpectatorFrame = s2.nextSpectatorFrame ∧
      y.1.nextSpectatorFrame ≤ s'.nextSpectatorFrame ∧
      s'.nextSpectatorFrame ≤ max y.1.nextSpectatorFrame (confirmed + 1) := by
  obtain ⟨gh, st0, hy⟩ := XInv_run x y h0 hrun
  have hny := nsf_runX x y hn hrun
  obtain ⟨confirmed, s1, s2, gh1, hconf, _, hn1, hoff, hn', hl1, hl2⟩ :=
    rollbackTick_offersD y.1 s' gh y.2 [] reqs' now st0 hy hny hadv
  exact ⟨gh1, confirmed, s1, s2, hconf, hn1, hoff, hn', hl1, hl2⟩

/-- **C06, C07 and C11, the network side of a lockstep session with dropped players and delay changes.**
As `C06_lockstep_net`, for runs that also contain `set_input_delay` calls for local players, accepted
`disconnect_player` calls and Disconnected events; the spectators are offered the rows `rowMapD`
(see `C06_host_rows_drops`) together with the connection statuses, and the lockstep invariants
(`C07_lockstep_timeline`) hold again. -/
theorem C06_lockstep_net_drops (x y : P2P × TLState) (h0 : LkNetInvD x) (hrun : LkYStar x y)
    (now : Nat) (s' : P2P) (reqs' : List Request) (hadv : y.1.advanceLockstepFrame now [] = .ok (s', reqs')) :
    ∃ (gh gh1 gh' : DGhost) (sA sB sC sD : P2P), LkInvD y.1 gh y.2 ∧ LkInvD s' gh' (execReqs y.2 reqs') ∧
      gh'.specs = gh1.specs ∧ (∀ p, PrefixOf (gh.specs p).vals (gh1.specs p).vals) ∧
      sA.lastSentOutgoingInputFrame = y.1.lastSentOutgoingInputFrame ∧ Sends gh1.g now sA sB ∧
      s'.lastSentOutgoingInputFrame = sB.lastSentOutgoingInputFrame ∧
      sC.nextSpectatorFrame = y.1.nextSpectatorFrame ∧
      OffersD gh1 sC.localConnectStatus y.1.sync.queues.length now sC sD ∧
      s'.nextSpectatorFrame = sD.nextSpectatorFrame := by
  obtain ⟨⟨gh, hl, hg⟩, hn⟩ := LkNetInvD_run x y h0 hrun
  obtain ⟨gh1, gh', sA, sB, sC, sD, hl', _, _, hsp, hpre, a1, a2, a3, b1, b2, b3⟩ :=
    lockstepTick_netD y.1 s' gh y.2 now reqs' hl hg hn hadv
  exact ⟨gh, gh1, gh', sA, sB, sC, sD, hl, hl', hsp, hpre, a1, a2, a3, b1, b2, b3⟩

/-- The premises are satisfiable: a freshly built lockstep session. -/
example (s : P2P) (R : Nat → List (Input × InputStatus)) (n : Nat)
    (hq : s.sync.queues = List.replicate n InputQueue.new) (hst : s.localConnectStatus = List.replicate n {})
    (hc : s.sync.currentFrame = 0) (hdf : s.disconnectFrame = NULL_FRAME)
    (ho : s.outgoingLocalInputs = []) (hn : 0 ≤ s.nextSpectatorFrame) :
    LkNetInvD (s, ⟨0, R⟩) :=
  ⟨⟨_, LkInvD_init s R n hq hst hc hdf, GlueInv_init s _ n (fun _ => rfl) ho hst (by rw [hq]; simp)⟩, hn⟩

end Ggrs

namespace Ggrs
open Spectator

/-- **C06 across host and spectator (the product, rollback-mode host, no disconnected players).** A
host session and its spectator side by side (`Proofs/HostSpec.lean`), from a pair that satisfies the
invariant (a freshly built host and spectator do: `C06_host_spectator_init`). Run ANY interleaving
of the host's own steps (including `set_input_delay` calls of its local players — C11's "and
spectators"), the spectator's `advance_frame` calls, and arrivals at the spectator — the next row,
one the host has already offered to its spectator endpoints, carrying what the host's queues hold
for that frame. Then every row the spectator holds is, player by player, the host's stream of that
player at that frame — what the host's own confirmed timeline carries (`C01_timeline_partial`) —
never beyond the frame the host has offered; and the `n`-th frame a spectator call hands out carries
exactly the `n`-th of these rows (`AdvOk`), or the call fails with nothing consumed. -/
theorem C06_spectator_replays_host_streams (x y : (P2P × TLState) × SpecSt) (h0 : ∃ gh, HSInv x gh)
    (hrun : HSStar x y) (s' : Spectator) (res : Except GgrsError (List Request))
    (hadv : y.2.1.advanceAfterPoll = .ok (s', res)) :
    ∃ gh, SessInv y.1.1 gh y.1.2 [] ∧
      (∀ f, f < y.2.2.1.length → ∀ h, h < y.1.1.sync.queues.length →
        f < (gh.specs h).vals.length ∧ (y.2.2.1.getD f []).getD h 0 = (gh.specs h).vals.getD f 0) ∧
      (y.2.2.1.length : Int) ≤ y.1.1.nextSpectatorFrame ∧
      (∀ reqs, res = .ok reqs → AdvOk y.2.2.1 y.2.2.2 reqs) ∧
      (∀ e, res = .error e → e = .notSynchronized ∨ (e = .predictionThreshold ∧ y.2.2.1.length ≤ y.2.2.2) ∨
        (e = .spectatorTooFarBehind ∧ y.2.2.2 + SPECTATOR_BUFFER_SIZE < y.2.2.1.length)) := by
  obtain ⟨gh, h⟩ := HSInv_run x y h0 hrun
  obtain ⟨hok, herr⟩ := advanceAfterPoll_spec y.2.1 s' y.2.2.1 y.2.2.2 res h.spec hadv
  exact ⟨gh, h.sess, h.rows, h.offered, fun reqs hr => (hok reqs hr).1, fun e he => (herr e he).2⟩

theorem C06_host_spectator_init (a : P2P) (R : Nat → List (Input × InputStatus)) (n : Nat) (numPlayers : Nat) (host : Endpoint)
    (mfb cs : Nat) (hnp : numPlayers > 0)
    (hq : a.sync.queues = List.replicate n InputQueue.new) (hst : a.localConnectStatus = List.replicate n {})
    (hc : a.sync.currentFrame = 0) (ho : a.outgoingLocalInputs = []) (hnsf : a.nextSpectatorFrame = 0) :
    ∃ gh, HSInv ((a, ⟨0, R⟩), (Spectator.new numPlayers host mfb cs, [], 0)) gh := by
  refine ⟨_, SessInv_init a R n hq hst hc, GlueInv_init a _ n (fun _ => rfl) ho hst (by rw [hq]; simp), ?_,
    ⟨specRing_new numPlayers host mfb cs hnp, rfl, Nat.le_refl _⟩, ?_, ?_⟩
  · show 0 ≤ a.nextSpectatorFrame; rw [hnsf]; exact Int.le_refl _
  · intro f hf; simp at hf
  · show ((([] : List (List Input)).length : Nat) : Int) ≤ a.nextSpectatorFrame
    rw [hnsf]; simp

end Ggrs

namespace Ggrs

/-- **Non-vacuity of the host/spectator product.** A freshly built host with a spectator endpoint and
a freshly synchronized spectator satisfy the invariant, and the world contains the run it is meant
for: the host simulates frame 0 with a prediction, receives the real input, rolls back, confirms
frame 0 and offers it to its spectator endpoint (`next_spectator_frame = 1`); the row `[5, 9]` —
read off the host's queues — arrives at the spectator, whose next call hands out exactly that row. -/
theorem C06_product_nonvacuous :
    (∃ gh, HSInv ((demoHost, ⟨0, fun _ => []⟩), (demoSpec, [], 0)) gh) ∧
    (∃ t' n, HSStar ((demoHost, ⟨0, fun _ => []⟩), (demoSpec, [], 0)) ((demoH2, t'), (demoSpec2, [[5, 9]], n)) ∧ n = 1) ∧
    demoH2.nextSpectatorFrame = 1 ∧
    (getOk demoSpec1.advanceAfterPoll).2 = .ok [.advance [(5, .confirmed), (9, .confirmed)]] := by
  refine ⟨?_, demo_hostspec_run _, demo_offered, demo_spec_row⟩
  refine ⟨_, SessInv_init demoHost (fun _ => []) 2 rfl rfl rfl,
    GlueInv_init demoHost _ 2 (fun _ => rfl) rfl rfl rfl, by decide, ?_, ?_, by decide⟩
  · exact ⟨by
      have := Spectator.specRing_new 2 (Endpoint.new [0, 1] 1 2 1 8 2000 500 60 none 78 0) 10 1 (by decide)
      exact ⟨this.len, this.players, this.rows, this.width, this.held, this.fresh, this.lastRecv⟩, rfl, Nat.le_refl _⟩
  · intro f hf; simp at hf

end Ggrs

