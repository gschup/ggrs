/-
C18 — Internal buffers stay bounded.

Local to one call, every state: the event queue of `P2PSession` after `handle_event` and after a
successful `advance_frame`, that of `SpectatorSession` after `handle_event` (`C18_trim`,
`C18_event_queue_after_handle_event`, `C18_event_queue_after_advance`), the pruning of an endpoint's
checksum history (`C18_checksum_prune`), `C18_no_remotes_no_queue`.
Over every schedule of one link: `C18_link_buffers` (unacknowledged inputs at the sender,
remembered inputs at the receiver).
-/
import GgrsModel.Model.Inventory
import GgrsModel.Model.Sites.P2pSession
import GgrsModel.Model.Sites.Protocol
import GgrsModel.Model.Sites.SpectatorSession
import GgrsModel.Proofs.RecvBound
import GgrsModel.Model.Spectator
import GgrsModel.Proofs.Calls

namespace Ggrs

theorem drop_length_le {α} (l : List α) (cap : Nat) : (l.drop (l.length - cap)).length ≤ cap := by
  simp only [List.length_drop]; omega

namespace P2P

/-- After the trimming step the event queue holds at most `MAX_EVENT_QUEUE_SIZE` events. -/
theorem C18_trim (s : P2P) : s.trimEvents.eventQueue.length ≤ MAX_EVENT_QUEUE_SIZE :=
  drop_length_le _ _

/-- Every endpoint event handled by the session ends with the queue within its bound, whatever
the event was and however full the queue was before (a user that never drains events). -/
theorem C18_event_queue_after_handle_event (s s' : P2P) (now : Nat) (ev : ProtoEvent) (hs : List Nat) (addr : Nat)
    (h : s.handleEvent now ev hs addr = .ok s') : s'.eventQueue.length ≤ MAX_EVENT_QUEUE_SIZE := by
  unfold handleEvent at h
  obtain ⟨s1, _, h⟩ := bind_ok h
  have := pure_ok h
  subst this
  exact C18_trim s1

/-- Every successful `advance_frame` leaves the queue within its bound, including the
`WaitRecommendation` / `DesyncDetected` events that are queued outside of `handle_event`. -/
theorem C18_event_queue_after_advance (s s' : P2P) (now : Nat) (reqs : List Request)
    (h : s.advanceFrameAfterPoll now = .ok (s', .ok reqs)) :
    s'.eventQueue.length ≤ MAX_EVENT_QUEUE_SIZE := by
  unfold advanceFrameAfterPoll at h
  obtain ⟨p, _, h⟩ := bind_ok h
  obtain ⟨s1, r⟩ := p
  simp only at h
  cases r with
  | ok rs =>
    have := pure_ok h
    simp only [Prod.mk.injEq] at this
    rw [← this.1]
    exact C18_trim s1
  | error e =>
    have := pure_ok h
    simp at this

/-- Without remote peers nothing is ever queued for sending. -/
theorem C18_no_remotes_no_queue (s s' : P2P) (h : Nat) (inp : PlayerInput) (hr : s.remotes = [])
    (hq : s.queueOutgoingLocalInput h inp = .ok s') : s'.outgoingLocalInputs = s.outgoingLocalInputs := by
  rcases (queueOutgoingLocalInput_ok hq).2 with ⟨_, rfl⟩ | ⟨he, _⟩
  · rfl
  · rw [hr] at he
    cases he

end P2P

namespace Spectator

theorem C18_trim (s : Spectator) : s.trimEvents.eventQueue.length ≤ MAX_EVENT_QUEUE_SIZE :=
  drop_length_le _ _

theorem C18_event_queue_after_handle_event (s s' : Spectator) (now : Nat) (ev : ProtoEvent) (addr : Nat)
    (h : s.handleEvent now ev addr = .ok s') : s'.eventQueue.length ≤ MAX_EVENT_QUEUE_SIZE := by
  unfold handleEvent at h
  obtain ⟨s1, _, h⟩ := bind_ok h
  have := pure_ok h
  subst this
  exact C18_trim s1

end Spectator

namespace Endpoint

/-- The pruning step of an endpoint's checksum history (`on_checksum_report`): once the history holds
`MAX_CHECKSUM_HISTORY_SIZE` = 32 entries, storing a report for frame `f` keeps, besides the new
entry, only entries for frames `≥ f − 31 · interval` — 31 = `MAX_CHECKSUM_HISTORY_SIZE − 1`: a full
history of reports one interval apart spans 31 intervals. The theorem bounds the frames that are
kept from below; it does not bound the length of the history. -/
theorem C18_checksum_prune (e e' : Endpoint) (cs : Nat) (f : Frame) (i : Nat)
    (hi : e.desyncInterval = some i) (h : e.onChecksumReport cs f = .ok e')
    (hfull : e.pendingChecksums.length ≥ MAX_CHECKSUM_HISTORY_SIZE) :
    ∀ p ∈ e'.pendingChecksums, p.1 = f ∨ p.1 ≥ f - ((MAX_CHECKSUM_HISTORY_SIZE : Int) - 1) * (i : Int) := by
  unfold onChecksumReport at h
  simp only [hi, bind, Except.bind, pure, Except.pure, hfull, if_true] at h
  cases h
  intro p hp
  simp only at hp
  rcases mem_ainsert_sub _ _ _ p hp with h1 | h1
  · left; rw [h1]
  · right
    have := (List.mem_filter.mp h1).2
    simpa using this

end Endpoint
end Ggrs

namespace Ggrs

/-- **C18, unacknowledged and remembered inputs (every schedule of one link).** For every schedule
of submissions, retransmissions, packet and acknowledgement deliveries (Proofs/Link.lean), the
sender never holds more than `PENDING_OUTPUT_SIZE + 1` unacknowledged inputs (as long as the
session stops submitting once the window is full — it disconnects the endpoint then) and the
receiver never remembers more than `2·max_prediction + 1` received inputs. -/
theorem C18_link_buffers (S : SStream) (hsize : S.width ≤ 65535) (st st' : Link) (h : LInv S st)
    (hb : RBound st.b) (hrun : LStar S st st') :
    st'.a.pendingOutput.length ≤ PENDING_OUTPUT_SIZE + 1 ∧
    st'.b.recvInputs.length ≤ 2 * st.b.maxPrediction + 1 :=
  ⟨(L_link S hsize st st' h hrun).pending_le, (RBound_run S hsize st st' h hb hrun).2.2⟩

end Ggrs
