/-
C16 — Invalid configurations and API misuse are rejected with errors, never panics.

The model of `SessionBuilder` is Model/Builder.lean (tied to src/sessions/builder.rs by the
builder suite: bounded-exhaustive call sequences run on both). The theorems below say that the
model's verdict at every call *is* the documented validity predicate, for every sequence of
calls of any length, that every configuration that starts a session satisfies the invariant
the sessions index by, and that every misuse call leaves the session state untouched.
-/
import GgrsModel.Model.Inventory
import GgrsModel.Model.Sites.Builder
import GgrsModel.Model.Sites.P2pSession
import GgrsModel.Model.Sites.SpectatorSession
import GgrsModel.Model.Sites.SyncTestSession
import GgrsModel.Model.Builder

namespace Ggrs

theorem bind_ne_ok {α β} {m : M α} {k : α → M β} {r : β} (h : ∀ a, k a ≠ .ok r) : (m >>= k) ≠ .ok r :=
  match m with
  | .error _ => nofun
  | .ok a => h a

end Ggrs

namespace Ggrs.Builder

/-- The documented validity condition of a single builder call in a builder state. -/
def Documented (b : Builder) : BuilderCall → Prop
  | .addPlayer t h =>
    (∀ p ∈ b.handles, p.1 ≠ h) ∧
    (match t with
     | .localPlayer => h < b.numPlayers
     | .remote _ => h < b.numPlayers
     | .spectator _ => h ≥ b.numPlayers)
  | .withNumPlayers n =>
    n ≥ 1 ∧ ∀ p ∈ b.handles, (match p.2 with
      | .localPlayer => p.1 < n
      | .remote _ => p.1 < n
      | .spectator _ => p.1 ≥ n)
  | .withFps n => n ≥ 1
  | .withMaxFramesBehind n => 1 ≤ n ∧ n < SPECTATOR_BUFFER_SIZE
  | .withCatchupSpeed n => n ≥ 1
  | _ => True

theorem validHandle_iff (t : PlayerType) (h n : Nat) :
    validHandle t h n = true ↔ (match t with
      | .localPlayer => h < n
      | .remote _ => h < n
      | .spectator _ => h ≥ n) := by
  cases t <;> simp [validHandle]

/-- **C16, builder.** Every call is accepted exactly when the documentation says it is valid. -/
theorem C16_builder_call (b : Builder) (c : BuilderCall) :
    (b.apply c).isSome ↔ Documented b c := by
  -- one case per branch of `apply`, in the order of its definition
  fun_cases apply b c with
  -- add_player: duplicate handle, handle invalid for the type, accepted
  | case1 t h hdup =>
    obtain ⟨p, hp, he⟩ := List.any_eq_true.mp hdup
    exact iff_of_false nofun fun hd => hd.1 p hp (eq_of_beq he)
  | case2 t h _ hv =>
    refine iff_of_false nofun fun hd => ?_
    rw [(validHandle_iff t h b.numPlayers).mpr hd.2] at hv
    cases hv
  | case3 t h hdup hv =>
    refine iff_of_true rfl ⟨fun p hp he => hdup (List.any_eq_true.mpr ⟨p, hp, beq_iff_eq.mpr he⟩), ?_⟩
    simp only [Bool.not_eq_true', Bool.not_eq_false] at hv
    exact (validHandle_iff t h b.numPlayers).mp hv
  -- with_num_players: zero, a handle becomes invalid, accepted
  | case4 n h0 => exact iff_of_false nofun fun hd => absurd (eq_of_beq h0) (Nat.ne_of_gt hd.1)
  | case5 n _ hall =>
    refine iff_of_false nofun fun hd => ?_
    rw [List.all_eq_true.mpr fun p hp => (validHandle_iff p.2 p.1 n).mpr (hd.2 p hp)] at hall
    cases hall
  | case6 n h0 hall =>
    simp only [Bool.not_eq_true', Bool.not_eq_false] at hall
    refine iff_of_true rfl ⟨Nat.pos_of_ne_zero fun h => h0 (beq_iff_eq.mpr h), fun p hp => ?_⟩
    exact (validHandle_iff p.2 p.1 n).mp (List.all_eq_true.mp hall p hp)
  -- with_fps, with_max_frames_behind, with_catchup_speed
  | case13 n h0 => exact iff_of_false nofun fun hd => absurd (eq_of_beq h0) (Nat.ne_of_gt hd)
  | case14 n h0 => exact iff_of_true rfl (Nat.pos_of_ne_zero fun h => h0 (beq_iff_eq.mpr h))
  | case16 n h1 => exact iff_of_false nofun fun hd => absurd h1 (Nat.not_lt.mpr hd.1)
  | case17 n _ h2 => exact iff_of_false nofun fun hd => absurd hd.2 (Nat.not_lt.mpr h2)
  | case18 n h1 h2 => exact iff_of_true rfl ⟨Nat.not_lt.mp h1, Nat.not_le.mp h2⟩
  | case19 n h1 => exact iff_of_false nofun fun hd => absurd h1 (Nat.not_lt.mpr hd)
  | case20 n h1 => exact iff_of_true rfl (Nat.not_lt.mp h1)
  -- the setters without a condition
  | case7 | case8 | case9 | case10 | case11 | case12 | case15 => exact iff_of_true rfl trivial

/-- What every reachable builder state satisfies, whatever calls were made in whatever order. -/
structure Inv (b : Builder) : Prop where
  players : b.numPlayers ≥ 1
  fps : b.fps ≥ 1
  handles : ∀ p ∈ b.handles, validHandle p.2 p.1 b.numPlayers = true
  behind : 1 ≤ b.maxFramesBehind ∧ b.maxFramesBehind < SPECTATOR_BUFFER_SIZE
  catchup : b.catchupSpeed ≥ 1

theorem inv_init : Inv {} := by
  refine ⟨by decide, by decide, ?_, by decide, by decide⟩
  intro p hp; cases hp

theorem inv_apply (b b' : Builder) (c : BuilderCall) (h : Inv b) (ha : b.apply c = some b') : Inv b' := by
  revert ha
  fun_cases apply b c with
  -- the rejecting branches
  | case1 | case2 | case4 | case5 | case13 | case16 | case17 | case19 => nofun
  | case3 t hdl _ hv =>
    rintro ⟨⟩
    simp only [Bool.not_eq_true', Bool.not_eq_false] at hv
    refine ⟨h.players, h.fps, fun p hp => ?_, h.behind, h.catchup⟩
    rcases List.mem_append.mp (List.mem_mergeSort.mp hp) with hp | hp
    · exact h.handles p hp
    · rw [List.mem_singleton.mp hp]
      exact hv
  | case6 n h0 hall =>
    rintro ⟨⟩
    simp only [Bool.not_eq_true', Bool.not_eq_false] at hall
    exact ⟨Nat.pos_of_ne_zero fun h => h0 (beq_iff_eq.mpr h), h.fps, List.all_eq_true.mp hall, h.behind, h.catchup⟩
  | case14 n h0 =>
    rintro ⟨⟩
    exact ⟨h.players, Nat.pos_of_ne_zero fun h => h0 (beq_iff_eq.mpr h), h.handles, h.behind, h.catchup⟩
  | case18 n h1 h2 =>
    rintro ⟨⟩
    exact ⟨h.players, h.fps, h.handles, ⟨Nat.not_lt.mp h1, Nat.not_le.mp h2⟩, h.catchup⟩
  | case20 n h1 =>
    rintro ⟨⟩
    exact ⟨h.players, h.fps, h.handles, h.behind, Nat.not_lt.mp h1⟩
  | case7 | case8 | case9 | case10 | case11 | case12 | case15 =>
    rintro ⟨⟩
    exact ⟨h.players, h.fps, h.handles, h.behind, h.catchup⟩

/-- **C16, every reachable builder state.** For every sequence of builder calls of any length
that the builder accepts, the resulting configuration has at least one player, a positive fps,
only handles valid for their player type, and spectator settings inside the buffer. -/
theorem C16_builder_reachable : ∀ (calls : List BuilderCall) (b b' : Builder),
    Inv b → b.applyAll calls = some b' → Inv b' := by
  intro calls
  induction calls with
  | nil => intro b b' h ha; simp [applyAll] at ha; subst ha; exact h
  | cons c cs ih =>
    intro b b' h ha
    simp only [applyAll] at ha
    cases hc : b.apply c with
    | none => simp [hc] at ha
    | some b1 => simp only [hc] at ha; exact ih b1 b' (inv_apply b b1 c h hc) ha

/-- **C16, start of a synctest session**: rejected with `InvalidRequest` exactly when
`check_distance >= max_prediction` or sparse saving is on. -/
theorem C16_synctest_rejects (b : Builder) (pred : Predictor) :
    b.startSyncTest pred = .ok none ↔ (b.checkDist ≥ b.maxPrediction ∨ b.sparse = true) := by
  unfold startSyncTest
  by_cases h1 : b.checkDist ≥ b.maxPrediction
  · rw [if_pos h1]
    exact iff_of_true rfl (.inl h1)
  · rw [if_neg h1]
    by_cases h2 : b.sparse = true
    · rw [if_pos h2]
      exact iff_of_true rfl (.inr h2)
    · rw [if_neg h2]
      exact iff_of_false (bind_ne_ok fun _ => nofun) (not_or.mpr ⟨h1, h2⟩)

/-- **C16, start of a P2P session**: rejected with `InvalidRequest` exactly when desync detection
has interval 0 or some player handle below `num_players` has not been added. -/
theorem C16_p2p_rejects (b : Builder) (pred : Predictor) (seeds : List EpSeed) (now : Nat) :
    b.startP2P pred seeds now = .ok none ↔
      (b.desync = some 0 ∨ ¬ ∀ h, h < b.numPlayers → ∃ p ∈ b.handles, p.1 = h) := by
  unfold startP2P
  by_cases h1 : b.desync = some 0
  · rw [if_pos (beq_iff_eq.mpr h1)]
    exact iff_of_true rfl (.inl h1)
  · rw [if_neg fun h => h1 (eq_of_beq h)]
    have hdoc : ((List.range b.numPlayers).all fun h => b.handles.any (·.1 == h)) = true ↔
        ∀ h, h < b.numPlayers → ∃ p ∈ b.handles, p.1 = h := by
      simp only [List.all_eq_true, List.mem_range, List.any_eq_true, beq_iff_eq]
    by_cases hall : ((List.range b.numPlayers).all fun h => b.handles.any (·.1 == h)) = true
    · rw [if_neg (by rw [hall]; nofun)]
      refine iff_of_false ?_ (not_or.mpr ⟨h1, fun h => h (hdoc.mp hall)⟩)
      -- the remaining computation ends in `return some _`: it is an error or `ok (some _)`
      exact bind_ne_ok fun _ => bind_ne_ok fun _ => bind_ne_ok fun _ => nofun
    · rw [if_pos (by rw [Bool.not_eq_true _ |>.mp hall]; rfl)]
      exact iff_of_true rfl (.inr fun hp => hall (hdoc.mpr hp))

end Ggrs.Builder

namespace Ggrs.P2P

/-! ### Misuse calls return the documented error and leave the session untouched -/

/-- input for a player that is not local -/
theorem C16_misuse_add_local_input (s : P2P) (h : Nat) (v : Input) (hl : ¬ h ∈ s.localPlayerHandles) :
    s.addLocalInput h v = (s, .error .invalidRequest) := by
  simp [addLocalInput, hl]

/-- advancing before synchronisation -/
theorem C16_misuse_not_synchronized (s : P2P) (now : Nat) (hr : s.running = false) :
    s.advanceFrameAfterPoll now = .ok (s, .error .notSynchronized) := by
  simp [advanceFrameAfterPoll, advanceFrameCore, hr, pure, Except.pure, bind, Except.bind]

/-- advancing with an input missing -/
theorem C16_misuse_missing_input (s : P2P) (now : Nat) (hr : s.running = true)
    (hm : (s.localPlayerHandles.all fun h => s.pendingLocalInputs.any (·.1 == h)) = false) :
    s.advanceFrameAfterPoll now = .ok (s, .error .invalidRequest) := by
  simp [advanceFrameAfterPoll, advanceFrameCore, hr, hm, pure, Except.pure, bind, Except.bind]

/-- disconnecting a local or unknown player, or one that is already disconnected -/
theorem C16_misuse_disconnect (s : P2P) (now h : Nat)
    (hbad : s.playerType h = none ∨ s.playerType h = some .localPlayer ∨
      (∃ a, s.playerType h = some (.remote a)) ∧ (rget s.localConnectStatus h).disconnected = true) :
    s.disconnectPlayer now h = .ok (s, .error .invalidRequest) := by
  rcases hbad with h0 | h0 | ⟨⟨a, h0⟩, hd⟩ <;> simp [disconnectPlayer, pure, Except.pure, *]

/-- delay change for a player that is not local -/
theorem C16_misuse_set_input_delay (s : P2P) (now h d : Nat) (hl : s.playerType h ≠ some .localPlayer) :
    s.setInputDelay now h d = .ok (s, .error .invalidRequest) := by
  simp only [setInputDelay]
  cases hp : s.playerType h with
  | none => simp [pure, Except.pure]
  | some t =>
    cases t with
    | localPlayer => exact absurd hp hl
    | remote a => simp [pure, Except.pure]
    | spectator a => simp [pure, Except.pure]

/-- stats for a handle that is neither a remote player nor a spectator -/
theorem C16_misuse_network_stats (s : P2P) (now h : Nat)
    (hl : s.playerType h = none ∨ s.playerType h = some .localPlayer) :
    s.networkStats now h = .ok (.err .invalidRequest) := by
  rcases hl with h0 | h0 <;> simp [networkStats, h0, pure, Except.pure, bind, Except.bind]

end Ggrs.P2P

namespace Ggrs.Builder
/-! `Documented` holds of some calls and not of others: in the initial builder state a local player
with handle 0 is valid; a local player with handle 2 (the default is two players) and
`max_frames_behind = SPECTATOR_BUFFER_SIZE` are not. The initial state satisfies `Inv`. -/
example : Documented {} (.addPlayer .localPlayer 0) ∧ ¬ Documented {} (.addPlayer .localPlayer 2) ∧
    ¬ Documented {} (.withMaxFramesBehind 60) := by
  simp [Documented]; decide
example : Inv {} := inv_init
end Ggrs.Builder
