/-
C07 — A peer drop is detected on time (endpoint timers) and the dropped player's inputs become
default/Disconnected after its last frame.

Timing theorems are about `checkTimeouts`, the silence timers of `UdpProtocol::poll` in the
Running state (`C07_disconnect_iff`, `C07_disconnect_once`, `C07_flag_set`); the cut-off theorem
`C07_cutoff` is about `SyncLayer::synchronized_inputs`; `C07_disconnect_marks_endpoint` is about
`disconnect_player_at_frame`, every state.
Over every run of the world with drops (`XStep`, Proofs/DropWorld.lean: local inputs, arrivals,
calls, cell writes, accepted `disconnect_player` calls, Disconnected events, cut-offs adopted from
other peers' reports except the case of the C10 finding): `C07_survivor_timeline`,
`C07_final_timeline` (`_delay`: with `set_input_delay` calls) — after the first call after a drop
the dropped player's part of the game's timeline is real input up to its last frame and
(blank, Disconnected) beyond. `C07_lockstep_timeline`: lockstep sessions (drops by
`disconnect_player` and Disconnected events).
-/
import GgrsModel.Model.Inventory
import GgrsModel.Proofs.Demo
import GgrsModel.Model.Sites.Protocol
import GgrsModel.Model.Sites.P2pSession
import GgrsModel.Proofs.Endpoint
import GgrsModel.Model.P2P
import GgrsModel.Proofs.Queue
import GgrsModel.Proofs.DropWorld
import GgrsModel.Proofs.LockstepDrop
import GgrsModel.Proofs.DelayDrop

namespace Ggrs.Endpoint

theorem checkTimeouts_disconnected (e : Endpoint) (now : Nat) :
    (e.checkTimeouts now).disconnectEventSent =
      (e.disconnectEventSent || decide (e.lastRecvTime + e.disconnectTimeout < now)) ∧
    (e.checkTimeouts now).eventQueue.count .disconnected = e.eventQueue.count .disconnected +
      if e.disconnectEventSent = false ∧ e.lastRecvTime + e.disconnectTimeout < now then 1 else 0 := by
  -- the second timer alone, on any endpoint
  have second : ∀ e1 : Endpoint, ∀ r, r = (if (!e1.disconnectEventSent && decide (e1.lastRecvTime + e1.disconnectTimeout < now)) = true then
        { e1 with eventQueue := e1.eventQueue ++ [.disconnected], disconnectEventSent := true } else e1) →
      r.disconnectEventSent = (e1.disconnectEventSent || decide (e1.lastRecvTime + e1.disconnectTimeout < now)) ∧
      r.eventQueue.count .disconnected = e1.eventQueue.count .disconnected +
        if e1.disconnectEventSent = false ∧ e1.lastRecvTime + e1.disconnectTimeout < now then 1 else 0 := by
    intro e1 r hr
    cases hs : e1.disconnectEventSent <;> by_cases ht : e1.lastRecvTime + e1.disconnectTimeout < now <;>
      simp [hr, hs, ht, List.count_append]
  -- the first timer (NetworkInterrupted) changes nothing of what is said here
  unfold checkTimeouts
  split
  · refine (second _ _ rfl).imp id fun h => h.trans ?_
    simp [List.count_append]
  · exact second e _ rfl

/-- `Disconnected` is raised by a poll exactly when it has not been raised before and the silence
since the last received packet is strictly longer than the disconnect timeout: not earlier. -/
theorem C07_disconnect_iff (e : Endpoint) (now : Nat) :
    ((e.checkTimeouts now).eventQueue.count .disconnected = e.eventQueue.count .disconnected + 1) ↔
      (e.disconnectEventSent = false ∧ e.lastRecvTime + e.disconnectTimeout < now) := by
  rw [(checkTimeouts_disconnected e now).2]
  split <;> simp [*]

/-- Once raised, the timer never raises `Disconnected` again (the flag is sticky). -/
theorem C07_disconnect_once (e : Endpoint) (now : Nat) (h : e.disconnectEventSent = true) :
    (e.checkTimeouts now).eventQueue.count .disconnected = e.eventQueue.count .disconnected ∧
    (e.checkTimeouts now).disconnectEventSent = true := by
  obtain ⟨h1, h2⟩ := checkTimeouts_disconnected e now
  rw [h1, h2, h]
  exact ⟨rfl, rfl⟩

theorem C07_flag_set (e : Endpoint) (now : Nat) (h : e.lastRecvTime + e.disconnectTimeout < now) :
    (e.checkTimeouts now).disconnectEventSent = true := by
  rw [(checkTimeouts_disconnected e now).1, decide_eq_true h, Bool.or_true]

end Ggrs.Endpoint

namespace Ggrs.SyncLayer

/-- The cut-off: a player that is disconnected as of a frame before the one being simulated gets
the default input with status Disconnected, whatever the input queue holds. -/
theorem C07_cutoff (pred : Predictor) (cur : Frame) (cs : ConnStatus) (rest : List ConnStatus) (i : Nat)
    (qs : List InputQueue) (acc : List (Input × InputStatus))
    (hd : cs.disconnected = true) (hf : cs.lastFrame < cur) :
    synchronizedInputsLoop pred cur (cs :: rest) i qs acc =
      synchronizedInputsLoop pred cur rest (i + 1) qs ((0, .disconnected) :: acc) := by
  simp [synchronizedInputsLoop, hd, hf]

end Ggrs.SyncLayer

namespace Ggrs.P2P

/-- **C07/C10, an endpoint's players are dropped together (every state).** `disconnect_player_at_frame`
for a remote player marks EVERY player behind its address as disconnected, moves no `last_frame`
(in particular never lowers one), touches nobody else, leaves the sync layer alone, and schedules
the re-simulation from `last_frame + 1` — or from an earlier frame already scheduled — exactly when
the session has simulated past it. -/
theorem C07_disconnect_marks_endpoint (s s' : P2P) (now handle addr : Nat) (lastFrame : Frame) (ep : Endpoint)
    (hpt : s.playerType handle = some (.remote addr)) (hep : findEp s.remotes addr = some ep)
    (h : s.disconnectPlayerAtFrame now handle lastFrame = .ok s') :
    (∀ g, g ∈ ep.handles → g < s.localConnectStatus.length → (rget s'.localConnectStatus g).disconnected = true) ∧
    (∀ g, (rget s'.localConnectStatus g).lastFrame = (rget s.localConnectStatus g).lastFrame) ∧
    (∀ g, g ∉ ep.handles → rget s'.localConnectStatus g = rget s.localConnectStatus g) ∧
    s'.sync = s.sync ∧
    s'.disconnectFrame = (if s.sync.currentFrame > lastFrame + 1 then
        (if s.disconnectFrame == NULL_FRAME then lastFrame + 1 else min s.disconnectFrame (lastFrame + 1))
      else s.disconnectFrame) := by
  obtain ⟨a, b, c, d, e, _⟩ := disconnectAt_fields s s' now handle addr lastFrame ep hpt hep h
  exact ⟨a, b, c, d, e⟩

end Ggrs.P2P

namespace Ggrs

/-- **C07, the survivor's timeline (rollback sessions, either saving mode).** Take any run of the
world with drops (`XStar`, file header) from a state satisfying the invariant (a freshly built
session does, below). For the next `advance_frame` call there are requests `reqs1` — its
rollback-and-save phase, a prefix of what it returns — such that once the game has executed them,
for EVERY player marked disconnected (whether long ago or since the previous call) and every
simulated frame `f`: beyond the player's last frame the game's last simulation of `f` used the blank
input with status Disconnected for it — including the frames that had been simulated with
predictions — and up to the last frame it used the player's real input (a remote player's stream
ends exactly at its last frame). If the call goes on to simulate a new frame, that frame too carries
(blank, Disconnected) for every such player, and the invariant holds again afterwards. -/
theorem C07_survivor_timeline (x y : P2P × TLState) (h0 : XInv x) (hrun : XStar x y)
    (now : Nat) (s' : P2P) (reqs' : List Request)
    (hadv : y.1.advanceRollbackFrame now [] = .ok (s', reqs')) :
    ∃ (gh : DGhost) (reqs1 : List Request),
      (reqs' = reqs1 ∨ ∃ ins : List (Input × InputStatus), reqs' = reqs1 ++ [.advance ins] ∧
        ins.length = y.1.sync.queues.length ∧
        ∀ p, p < y.1.sync.queues.length → (rget y.1.localConnectStatus p).disconnected = true →
          (rget y.1.localConnectStatus p).lastFrame < y.1.sync.currentFrame →
          ins.getD p default = (0, .disconnected)) ∧
      (∀ p, p < y.1.sync.queues.length → (rget y.1.localConnectStatus p).disconnected = true →
        ∀ f : Nat, (f : Int) < y.1.sync.currentFrame →
          ((rget y.1.localConnectStatus p).lastFrame < (f : Int) →
            ((execReqs y.2 reqs1).R f).getD p default = (0, .disconnected)) ∧
          ((f : Int) ≤ (rget y.1.localConnectStatus p).lastFrame → f < (gh.specs p).vals.length →
            (((execReqs y.2 reqs1).R f).getD p default).1 = (gh.specs p).vals.getD f 0)) ∧
      (∀ p, p < y.1.sync.queues.length → p ∉ y.1.localPlayerHandles →
        ((gh.specs p).vals.length : Int) = (rget y.1.localConnectStatus p).lastFrame + 1) ∧
      XInv (s', execReqs y.2 reqs') := by
  obtain ⟨gh, st0, h⟩ := XInv_run x y h0 hrun
  obtain ⟨s1, reqs1, gh1, _, gh', hset, hright, hinv', _, _, _, _, _, _, _, hcase⟩ :=
    advanceRollbackFrame_specD y.1 s' gh y.2 [] reqs' now st0 h hadv
  refine ⟨gh1, reqs1, ?_, ?_, ?_, ⟨gh', _, SessInvD_rebase s' gh' y.2 reqs' _ hinv'⟩⟩
  · rcases hcase with ⟨hr, _⟩ | ⟨c, ins, hc, hr, hil, hok, _⟩
    · exact Or.inl hr
    · refine Or.inr ⟨ins, hr, hil, ?_⟩
      intro p hp hd hlt
      exact (hok p (by rw [hil]; exact hp)).1 ⟨hd, by rw [← hc]; exact hlt⟩
  · intro p hp hd f hf
    have hp1 : p < s1.sync.queues.length := by rw [hset.nq]; exact hp
    refine ⟨fun hlf => hset.inv.deadRows p hp1 hd f hlf (by rw [hset.cur]; exact hf), fun hle hlen => ?_⟩
    rw [← hset.inv.rows p hp1 f]
    exact hright p hp1 f (by rw [hset.cur]; exact hf) hlen (fun _ => hle)
  · intro p hp hnl
    rw [hset.specs]
    have := h.remote p hp hnl
    rw [this.2.2, this.2.1]

theorem C07_final_timeline_at (s s' : P2P) (gh : DGhost) (t : TLState) (st0 : List ConnStatus)
    (h : SessInvD s gh t [] st0) (now : Nat) (reqs' : List Request)
    (hadv : s.advanceRollbackFrame now [] = .ok (s', reqs')) :
    ∃ gh' : DGhost, ∀ p, p < s.sync.queues.length → (rget s.localConnectStatus p).disconnected = true →
      ∀ f : Nat, (f : Int) < s'.sync.currentFrame →
        ((rget s.localConnectStatus p).lastFrame < (f : Int) →
          ((execReqs t reqs').R f).getD p default = (0, .disconnected)) ∧
        (p ∉ s.localPlayerHandles → (f : Int) ≤ (rget s.localConnectStatus p).lastFrame →
          (((execReqs t reqs').R f).getD p default).1 = (gh'.specs p).vals.getD f 0 ∧
          ((gh'.specs p).vals.length : Int) = (rget s.localConnectStatus p).lastFrame + 1) := by
  obtain ⟨gh', _, h'⟩ := deadColumn_after_call s s' gh t [] reqs' st0 h now hadv
  exact ⟨gh', h'⟩

/-- **C07, the final timeline (rollback sessions, either saving mode).** After any run of the same
world (`XStar`), let the game execute the whole request list of one more `advance_frame` call. Then
for every player that was marked disconnected when the call began and every frame `f` the game has
simulated so far: if `f` lies beyond the player's last frame, the game's last simulation of `f` used
(blank, Disconnected) for it; and (remote players) if it does not, it used the player's real input
of `f`. So the dropped player's part of the survivor's timeline is final at the end of the first
call after the drop, and stays so after every later call. -/
theorem C07_final_timeline (x y : P2P × TLState) (h0 : XInv x) (hrun : XStar x y)
    (now : Nat) (s' : P2P) (reqs' : List Request)
    (hadv : y.1.advanceRollbackFrame now [] = .ok (s', reqs')) :
    ∃ gh' : DGhost, ∀ p, p < y.1.sync.queues.length → (rget y.1.localConnectStatus p).disconnected = true →
      ∀ f : Nat, (f : Int) < s'.sync.currentFrame →
        ((rget y.1.localConnectStatus p).lastFrame < (f : Int) →
          ((execReqs y.2 reqs').R f).getD p default = (0, .disconnected)) ∧
        (p ∉ y.1.localPlayerHandles → (f : Int) ≤ (rget y.1.localConnectStatus p).lastFrame →
          (((execReqs y.2 reqs').R f).getD p default).1 = (gh'.specs p).vals.getD f 0 ∧
          ((gh'.specs p).vals.length : Int) = (rget y.1.localConnectStatus p).lastFrame + 1) := by
  obtain ⟨gh, st0, h⟩ := XInv_run x y h0 hrun
  exact C07_final_timeline_at y.1 s' gh y.2 st0 h now reqs' hadv

/-- `C07_final_timeline` for runs that also contain `set_input_delay` calls of local players — the
largest world (`YStep`): every step of `XStep`, and delay changes, in any order. -/
theorem C07_final_timeline_delay (x y : P2P × TLState) (h0 : YInv x) (hrun : YStar x y)
    (now : Nat) (s' : P2P) (reqs' : List Request)
    (hadv : y.1.advanceRollbackFrame now [] = .ok (s', reqs')) :
    ∃ gh' : DGhost, ∀ p, p < y.1.sync.queues.length → (rget y.1.localConnectStatus p).disconnected = true →
      ∀ f : Nat, (f : Int) < s'.sync.currentFrame →
        ((rget y.1.localConnectStatus p).lastFrame < (f : Int) →
          ((execReqs y.2 reqs').R f).getD p default = (0, .disconnected)) ∧
        (p ∉ y.1.localPlayerHandles → (f : Int) ≤ (rget y.1.localConnectStatus p).lastFrame →
          (((execReqs y.2 reqs').R f).getD p default).1 = (gh'.specs p).vals.getD f 0 ∧
          ((gh'.specs p).vals.length : Int) = (rget y.1.localConnectStatus p).lastFrame + 1) := by
  obtain ⟨gh, st0, h⟩ := (YInv_run x y h0 hrun).xinv
  exact C07_final_timeline_at y.1 s' gh y.2 st0 h now reqs' hadv

/-- The premises of `C07_survivor_timeline` are satisfiable: a freshly built session. -/
example (s : P2P) (R : Nat → List (Input × InputStatus)) (n : Nat)
    (hq : s.sync.queues = List.replicate n InputQueue.new) (hst : s.localConnectStatus = List.replicate n {})
    (hc : s.sync.currentFrame = 0) (hdf : s.disconnectFrame = NULL_FRAME) :
    XInv (s, ⟨0, R⟩) :=
  ⟨_, _, SessInvD_of_SessInv s _ ⟨0, R⟩ [] (SessInv_init s R n hq hst hc) hdf⟩

/-- **C07 in lockstep mode.** From any state satisfying the lockstep invariant with drops (a freshly
built session does: `LkInvD_init`) run ANY sequence of local input submissions, remote-input
arrivals, lockstep `advance_frame` calls whose requests the game executes, accepted
`disconnect_player` calls and Disconnected events of endpoints. Then (1) every row of the game's
timeline below the current frame is `rowOfD`: per player the real input with status Confirmed, or —
exactly for the players marked disconnected with a last frame before that row — the blank input
with status Disconnected (a lockstep session never runs beyond a connected player's last frame, so
no simulated frame has to be redone when a player drops: `disconnect_frame` stays NULL); and (2) one
more call returns no request at all or exactly one AdvanceFrame carrying that row for the current
frame — never a SaveGameState or LoadGameState — and keeps the invariant. -/
theorem C07_lockstep_timeline (x y : P2P × TLState) (h0 : ∃ gh, LkInvD x.1 gh x.2) (hrun : LkXStar x y) :
    ∃ gh, LkInvD y.1 gh y.2 ∧
      (∀ f : Nat, (f : Int) < y.1.sync.currentFrame →
        y.2.R f = rowOfD gh y.1.localConnectStatus y.1.sync.queues.length f) ∧
      ∀ (now : Nat) (s' : P2P) (reqs' : List Request), y.1.advanceLockstepFrame now [] = .ok (s', reqs') →
        ∃ gh', LkInvD s' gh' (execReqs y.2 reqs') ∧
          ((reqs' = [] ∧ s'.sync.currentFrame = y.1.sync.currentFrame) ∨
           (∃ c : Nat, y.1.sync.currentFrame = (c : Int) ∧
             reqs' = [.advance (rowOfD gh' y.1.localConnectStatus y.1.sync.queues.length c)] ∧
             s'.sync.currentFrame = y.1.sync.currentFrame + 1)) := by
  obtain ⟨gh, h⟩ := LkInvD_run x y h0 hrun
  refine ⟨gh, h, h.timeline, ?_⟩
  intro now s' reqs' hadv
  obtain ⟨gh', h', hcase, _⟩ := lockstepTick_specD y.1 s' gh y.2 now reqs' h hadv
  exact ⟨gh', h', hcase⟩

/-- The premises of `C07_lockstep_timeline` are satisfiable. -/
example (s : P2P) (R : Nat → List (Input × InputStatus)) (n : Nat)
    (hq : s.sync.queues = List.replicate n InputQueue.new) (hst : s.localConnectStatus = List.replicate n {})
    (hc : s.sync.currentFrame = 0) (hdf : s.disconnectFrame = NULL_FRAME) :
    ∃ gh, LkInvD s gh ⟨0, R⟩ := ⟨_, LkInvD_init s R n hq hst hc hdf⟩

end Ggrs

namespace Ggrs

/-- **Non-vacuity of the world with drops.** A freshly built session with an endpoint for its remote
player satisfies the invariant, and `XStar` contains the run it is meant for: two calls simulate
frames 0 and 1 predicting the remote player (whose input never arrives), the user drops that player
with `disconnect_player` (accepted), and the next call rolls back to frame 0 and re-simulates both
frames with the player's blank input marked Disconnected before simulating frame 2 the same way. -/
theorem C07_drop_nonvacuous :
    XInv (demoD0, ⟨0, fun _ => []⟩) ∧ (∃ t', XStar (demoD0, ⟨0, fun _ => []⟩) (demoD4, t')) ∧
    (getOk demoD4r).2.any (fun r => match r with | .load 0 => true | _ => false) = true ∧
    (getOk demoD4r).2.getLast? = some (.advance [(7, .confirmed), (0, .disconnected)]) :=
  ⟨⟨_, _, SessInvD_of_SessInv demoD0 _ _ [] (SessInv_init demoD0 (fun _ => []) 2 rfl rfl rfl) rfl⟩,
    demo_drop_run _, demo_drop_facts.1, demo_drop_facts.2⟩

end Ggrs

