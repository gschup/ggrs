/-
C14 — The input codec round-trips every input and decodes total.

Property theorems only; helper lemmas are in Proofs/{Varint,Rle,Delta}.lean.
The model is Model/Codec.lean: it mirrors the repaired src/network/compression.rs, which decodes
with the checked `rle_decode` instead of `bitfield_rle::decode` (F1), plus the `bitfield-rle` encoder.
-/
import GgrsModel.Model.Inventory
import GgrsModel.Model.Sites.Compression
import GgrsModel.Proofs.Delta

namespace Ggrs.Codec

/-- **C14, round trip.** Encoding any sequence of inputs of lengths ≤ 65535 (including empty and
varying lengths) against any reference and decoding the result against the same reference yields
the original sequence. The side condition is the decoder's allocation cap: the delta-encoded
size (2-byte length prefix + payload per input) must not exceed `MAX_DECODED_BYTES`, which is
what 129 maximal inputs occupy — more than any endpoint can have pending. -/
theorem C14_roundtrip (reference : Bytes) (xs : List Bytes)
    (hlen : ∀ x ∈ xs, x.length ≤ 65535)
    (hcap : encodedSize xs ≤ MAX_DECODED_BYTES) :
    decode reference (encode reference xs) = .ok xs :=
  decode_encode reference xs hlen hcap

/-- Everything a protocol endpoint can legitimately send fits under the cap: at most
`PENDING_OUTPUT_SIZE + 1` inputs of at most 65535 bytes each. -/
theorem C14_fix_accepts_legit (reference : Bytes) (xs : List Bytes)
    (hlen : ∀ x ∈ xs, x.length ≤ 65535) (hn : xs.length ≤ PENDING_OUTPUT_SIZE + 1) :
    decode reference (encode reference xs) = .ok xs := by
  exact C14_roundtrip reference xs hlen (encodedSize_cap xs hlen hn)

/-- **C14, totality.** For every reference and every byte string the decoder returns either
inputs or an error; it never reaches the u64 overflow in the run header (the model's one panic
outcome; the cap arithmetic and the slice indices are modelled by `room : Nat` and `takeExact`,
which cannot fail), and whatever it returns
occupies at most `MAX_DECODED_BYTES` bytes including the per-input length prefixes (so at most
`MAX_DECODED_BYTES / 2` inputs). -/
theorem C14_total (reference data : Bytes) :
    (∃ xs, decode reference data = .ok xs ∧ encodedSize xs ≤ MAX_DECODED_BYTES) ∨
    (∃ e, decode reference data = .error e ∧ ∀ s, e ≠ .panic s) :=
  (decode_safe reference data).elim

/-- The intermediate buffer of the run-length layer never exceeds the cap either. -/
theorem C14_rle_bounded (data buf : Bytes) (h : rleDecode data = .ok buf) :
    buf.length ≤ MAX_DECODED_BYTES := (rleDecode_safe data).2 buf h

/-! Concrete inputs meeting the hypotheses of `C14_roundtrip`; and the three byte strings of F1 —
`bitfield_rle::decode` panics on the first, overflows its run header on the second and allocates more
than 12 GiB on the third — are plain errors of the model, as is a truncated literal run. -/

example : decode [1, 2, 3, 4] (encode [1, 2, 3, 4] [[0, 1], [], [5, 6, 7, 8, 0, 0, 0, 255, 255]])
    = .ok [[0, 1], [], [5, 6, 7, 8, 0, 0, 0, 255, 255]] := by decide
example : (∀ x ∈ ([[0, 1], [], [5, 6, 7, 8]] : List Bytes), x.length ≤ 65535) ∧
    encodedSize [[0, 1], [], [5, 6, 7, 8]] ≤ MAX_DECODED_BYTES := by decide
example : decode [] [0x80] = .error .truncatedRunHeader := by decide
example : decode [] [0xFF, 0xFF, 0xFF, 0xFF, 0xFF, 0xFF, 0xFF, 0xFF, 0xFF, 0xFF, 0x01]
    = .error .runHeaderOverflows := by decide
example : decode [] [0xFD, 0xFF, 0xFF, 0xFF, 0x0F] = .error .tooLarge := by decide
example : decode [] [0x08, 1] = .error .truncatedLiteralRun := by decide

end Ggrs.Codec
