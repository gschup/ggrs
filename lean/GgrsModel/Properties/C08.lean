/-
C08 — Malformed or foreign packets are discarded without panic or effect.

`onInput` / `handleMessage` are the model of `UdpProtocol::on_input` / `handle_message`
(Model/Protocol.lean). Each endpoint theorem is for every endpoint state, every time and every
value of the remaining fields. `C08_unknown_address` is about the session's `poll_remote_clients`.
-/
import GgrsModel.Model.Inventory
import GgrsModel.Model.Sites.Protocol
import GgrsModel.Model.Sites.Compression
import GgrsModel.Model.Sites.P2pSession
import GgrsModel.Model.Sites.SpectatorSession
import GgrsModel.Proofs.RecvStream2
import GgrsModel.Properties.C14
import GgrsModel.Model.P2P

namespace Ggrs.Endpoint
open Codec (Bytes)

/-- Wrong number of connection statuses: the packet changes nothing at all. -/
theorem C08_wrong_status_count (e : Endpoint) (now : Nat) (st : List ConnStatus) (sf af : Frame) (bytes : Bytes)
    (h : st.length ≠ e.numPlayers) : e.onInput now st false sf af bytes = e := by
  simp [onInput, h]

/-- Negative start frame: the packet changes nothing at all. -/
theorem C08_negative_start (e : Endpoint) (now : Nat) (st : List ConnStatus) (dr : Bool) (sf af : Frame)
    (bytes : Bytes) (h : sf < 0) : e.onInput now st dr sf af bytes = e := by
  unfold onInput
  rw [if_pos h, ite_self]

/-- Another session's magic number (after the handshake fixed the peer's magic): nothing changes,
not even the silence timer. -/
theorem C08_foreign_magic (e : Endpoint) (now : Nat) (msg : Msg)
    (h0 : e.remoteMagic ≠ 0) (h1 : msg.magic ≠ e.remoteMagic) : e.handleMessage now msg = .ok e := by
  unfold handleMessage
  by_cases hs : e.state = .shutdown
  · simp [hs, pure, Except.pure]
  · have : (e.state == ProtoState.shutdown) = false := by simpa using hs
    simp [this, h0, h1, pure, Except.pure]

/-- A payload that is not a valid encoding (any byte string the decoder rejects): no input is
accepted, no Input event is raised, nothing is acknowledged. What does change is exactly what the
packet's genuine header fields cause in any packet (`applyInputHeader`: the piggy-backed ack and
the connection-status gossip) and the retry timer. -/
theorem C08_bad_payload (e : Endpoint) (now : Nat) (sf : Frame) (bytes reference : Bytes) (err : Codec.CodecErr)
    (href : alookup (if e.lastRecvFrame == NULL_FRAME then NULL_FRAME else sf - 1) e.recvInputs = some reference)
    (hdec : Codec.decode reference bytes = .error err) :
    e.decodeInputs now sf bytes = { e with runningLastInputRecv := now } :=
  decodeInputs_of_error href hdec

/-- Handling an Input message always returns normally: `decodeInputs` maps every error of the decoder
to the unchanged endpoint and `on_input` has no other partial operation. That the decoder itself
reaches no panic site is `C14_total`. -/
theorem C08_input_total (e : Endpoint) (now : Nat) (magic : Nat) (st : List ConnStatus) (dr : Bool)
    (sf af : Frame) (bytes : Bytes) :
    ∃ e', e.handleMessage now ⟨magic, .input st dr sf af bytes⟩ = .ok e' := by
  unfold handleMessage
  simp only [pure, Except.pure]
  split
  · exact ⟨_, rfl⟩
  · split
    · exact ⟨_, rfl⟩
    · exact ⟨_, rfl⟩

/-- Anything but exactly one input per player is rejected. -/
theorem toPlayerInputs_none (f : Frame) (bytes : Bytes) (n : Nat)
    (h : bytes.length ≠ INPUT_SIZE * n ∨ n = 0) : toPlayerInputs f bytes n = none :=
  Option.not_isSome_iff_eq_none.mp fun hs =>
    h.elim (fun hl => hl ((toPlayerInputs_isSome f bytes n).mp hs).1) ((toPlayerInputs_isSome f bytes n).mp hs).2

/-- Frames of the wrong size: if the first frame the endpoint does not have yet has a size that is
not exactly one input per player, nothing of the packet is stored, no event is raised and nothing
is acknowledged. -/
theorem C08_wrong_size_first_frame (e : Endpoint) (sf : Frame) (inp : Bytes) (rest : List Bytes)
    (hnew : ¬ sf ≤ e.lastRecvFrame)
    (hsize : inp.length ≠ INPUT_SIZE * e.handles.length ∨ e.handles.length = 0) :
    acceptInputs e sf (inp :: rest) 0 = (e, false) := by
  rw [acceptInputs, Int.natCast_zero, Int.add_zero, if_neg hnew, toPlayerInputs_none _ _ _ hsize]

/-! The hypothesis `hdec` of `C08_bad_payload` is satisfiable. -/
example : Codec.decode [0] [0x80] = .error .truncatedRunHeader := by decide

end Ggrs.Endpoint

namespace Ggrs.P2P

theorem updEp_unknown (addr : Nat) (f : Endpoint → M Endpoint) : ∀ (l : List (Nat × Endpoint)),
    (∀ x, x ∈ l → x.1 ≠ addr) → updEp l addr f = .ok l := by
  intro l
  induction l with
  | nil => intro _; rfl
  | cons x xs ih =>
    intro h
    obtain ⟨a, e⟩ := x
    have ha : (a == addr) = false := by
      have := h (a, e) List.mem_cons_self
      simpa using this
    unfold updEp at ih ⊢
    simp only [List.mapM_cons, ha, Bool.false_eq_true, if_false]
    rw [ih (fun y hy => h y (List.mem_cons_of_mem _ hy))]
    rfl

/-- **C08, a packet from an unknown address (every state, every packet).** A message whose sender is
neither a registered remote peer nor a registered spectator is dropped by `poll_remote_clients`
without touching anything: the poll behaves exactly as if the message had not arrived. -/
theorem C08_unknown_address (s : P2P) (now : Nat) (from_ : Nat) (msg : Msg) (rest : List (Nat × Msg))
    (hr : ∀ x, x ∈ s.remotes → x.1 ≠ from_) (hs : ∀ x, x ∈ s.spectators → x.1 ≠ from_) :
    s.pollRemoteClients now ((from_, msg) :: rest) = s.pollRemoteClients now rest := by
  unfold pollRemoteClients
  simp only [List.foldlM_cons]
  rw [updEp_unknown from_ _ s.remotes hr, updEp_unknown from_ _ s.spectators hs]
  rfl

end Ggrs.P2P

