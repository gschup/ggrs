/-
C15 — Time-sync estimates and wait advice.

`TimeSync.averageSpec` is the exact (rational, truncated) specification of
`TimeSync::average_frame_advantage`; the executable model computes the same quantity in `f32`
exactly as the Rust code does (`averageFrameAdvantage`), and the gap between the two is *tested*,
not proved (Lean cannot reason about `Float32`): this property is partial for that reason.
`checkWaitRecommendation` models `P2PSession::check_wait_recommendation`.

`C15_average_spec`, `C15_steady_lead`: the specified estimate; `C15_recommendation`: the wait advice;
`C15_ping_is_round_trip`, `C15_report_is_echoed`: what the reported ping measures; `C15_stats_gate`,
`C15_no_numbers_before_measurement`: `network_stats` reports numbers only once a round trip has been
measured — the repaired code; F11: the gate counted one second from the start of the handshake only,
and reported ping 0 before the first `QualityReply`.
-/
import GgrsModel.Model.Inventory
import GgrsModel.Model.Sites.TimeSync
import GgrsModel.Model.Sites.Protocol
import GgrsModel.Model.Sites.P2pSession
import GgrsModel.Model.P2P
import GgrsModel.Proofs.Monad
import GgrsModel.Proofs.Endpoint

namespace Ggrs.TimeSync

theorem isum_replicate (n : Nat) (a : Int) : isum (List.replicate n a) = n * a := by
  unfold isum
  have key : ∀ (n : Nat) (acc : Int), (List.replicate n a).foldl (· + ·) acc = acc + n * a := by
    intro n
    induction n with
    | zero => intro acc; simp
    | succ k ih =>
      intro acc
      simp only [List.replicate_succ, List.foldl_cons, ih]
      rw [Int.add_assoc]; congr 1
      rw [Int.natCast_succ, Int.add_mul, Int.one_mul, Int.add_comm]
  simpa using key n 0

/-- **C15, meet in the middle.** With a full window of constant local advantage `a` and remote
advantage `b`, the specified estimate is `(b − a) / 2` truncated toward zero: a peer that leads
by `k` frames (`a = −k`, `b = +k`) gets `+k`, its partner (`a = +k`, `b = −k`) gets `−k`, and the
two estimates add up to zero. -/
theorem C15_average_spec (n : Nat) (a b : Int) (hn : n > 0) :
    averageSpec ⟨List.replicate n a, List.replicate n b⟩ = Int.tdiv (b - a) 2 := by
  unfold averageSpec
  simp only [isum_replicate, List.length_replicate]
  have h1 : (n : Int) * b - n * a = (b - a) * n := by
    rw [← Int.mul_sub, Int.mul_comm]
  rw [h1]
  have hpos : (0 : Int) < n := by omega
  exact Int.mul_tdiv_mul_of_pos_left (b - a) 2 hpos

theorem C15_steady_lead (n : Nat) (k : Int) (hn : n > 0) :
    averageSpec ⟨List.replicate n (-k), List.replicate n k⟩ = k ∧
    averageSpec ⟨List.replicate n k, List.replicate n (-k)⟩ = -k := by
  constructor
  · rw [C15_average_spec n (-k) k hn]
    have : k - -k = k * 2 := by omega
    rw [this, Int.mul_tdiv_cancel _ (by decide)]
  · rw [C15_average_spec n k (-k) hn]
    have : -k - k = (-k) * 2 := by omega
    rw [this, Int.mul_tdiv_cancel _ (by decide)]

end Ggrs.TimeSync

namespace Ggrs.P2P

/-- **C15, wait advice.** `check_wait_recommendation` queues a `WaitRecommendation` only if
`frames_ahead()` (as updated by this very call) is at least `MIN_RECOMMENDATION` and the current
frame is beyond the previous gate; the event carries exactly that value, and the gate moves
`RECOMMENDATION_INTERVAL` frames past the current frame — so two recommendations are always more
than `RECOMMENDATION_INTERVAL` frames apart. Otherwise the event queue is untouched. -/
theorem C15_recommendation (s s' : P2P) (h : s.checkWaitRecommendation = .ok s') :
    s'.framesAhead = s.maxFrameAdvantage ∧
    ((s.sync.currentFrame > s.nextRecommendedSleep ∧ s.maxFrameAdvantage ≥ (MIN_RECOMMENDATION : Int) ∧
        s'.eventQueue = s.eventQueue ++ [.waitRecommendation s.maxFrameAdvantage.toNat] ∧
        s'.nextRecommendedSleep = s.sync.currentFrame + (RECOMMENDATION_INTERVAL : Int)) ∨
     (¬ (s.sync.currentFrame > s.nextRecommendedSleep ∧ s.maxFrameAdvantage ≥ (MIN_RECOMMENDATION : Int)) ∧
        s'.eventQueue = s.eventQueue ∧ s'.nextRecommendedSleep = s.nextRecommendedSleep)) := by
  unfold checkWaitRecommendation at h
  simp only at h
  split at h
  · rename_i hc
    cases pure_ok h
    simp only [Bool.and_eq_true, decide_eq_true_eq] at hc
    exact ⟨rfl, Or.inl ⟨hc.1, hc.2, rfl, rfl⟩⟩
  · rename_i hc
    cases pure_ok h
    exact ⟨rfl, Or.inr ⟨fun hh => hc (by simp [hh.1, hh.2]), rfl, rfl⟩⟩

end Ggrs.P2P

namespace Ggrs.Endpoint

theorem passes_filters {e : Endpoint} {magic : Nat} (hs : e.state ≠ .shutdown)
    (hm : e.remoteMagic = 0 ∨ magic = e.remoteMagic) :
    (e.state == .shutdown) = false ∧ (e.remoteMagic != 0 && magic != e.remoteMagic) = false := by
  refine ⟨by simpa using hs, ?_⟩
  rcases hm with h | h <;> simp [h]

/-- **C15, what the ping is.** A quality report carries the sender's clock reading in milliseconds;
the receiver echoes it unchanged in its reply (whatever state it is in, once the packet passed the
magic filter), and the report's sender, handling the reply at time `now`, records
`now / 1000 − (that reading)` as its round-trip time and remembers that it has a measurement. So the
ping `network_stats` reports is the time between the poll that sent the report and the poll that
handled the reply: the link's round trip plus what the two sides wait for their next poll. -/
theorem C15_ping_is_round_trip (e : Endpoint) (now : Nat) (magic pong : Nat)
    (hs : e.state ≠ .shutdown) (hm : e.remoteMagic = 0 ∨ magic = e.remoteMagic) :
    ∃ e', e.handleMessage now ⟨magic, .qualityReply pong⟩ = .ok e' ∧
      e'.roundTripTime = now / 1000 - pong ∧ e'.roundTripTimeMeasured = true := by
  unfold handleMessage
  simp only [passes_filters hs hm, Bool.false_eq_true, if_false]
  exact ⟨_, rfl, rfl, rfl⟩

/-- The echo: a quality report is answered with a reply carrying the same clock reading. -/
theorem C15_report_is_echoed (e : Endpoint) (now : Nat) (magic : Nat) (adv : Int) (ping : Nat)
    (hs : e.state ≠ .shutdown) (hm : e.remoteMagic = 0 ∨ magic = e.remoteMagic) :
    ∃ e', e.handleMessage now ⟨magic, .qualityReport adv ping⟩ = .ok e' ∧
      e'.remoteFrameAdvantage = adv ∧
      e'.sendQueue = e.sendQueue ++ [⟨e.magic, .qualityReply ping⟩] := by
  unfold handleMessage
  simp only [passes_filters hs hm, Bool.false_eq_true, if_false]
  have hn : (e.noteReceived now).sendQueue = e.sendQueue ∧ (e.noteReceived now).magic = e.magic := by
    unfold noteReceived
    simp only
    split <;> exact ⟨rfl, rfl⟩
  refine ⟨_, rfl, rfl, ?_⟩
  show (e.noteReceived now).sendQueue ++ [⟨(e.noteReceived now).magic, _⟩] = _
  rw [hn.1, hn.2]

/-- **C15, the gate of `network_stats`.** Numbers are only reported by an endpoint that is
synchronizing or running, at least one second after it was started, and — the repaired
`network_stats`, F11 — only once a round-trip time has actually been measured; the ping reported is
that measurement. -/
theorem C15_stats_gate (e : Endpoint) (now : Nat) (p q : Nat) (l r : Int)
    (h : e.networkStats now = .ok p q l r) :
    (e.state = .synchronizing ∨ e.state = .running) ∧ e.roundTripTimeMeasured = true ∧
    (now / 1000 - e.statsStartTime) / 1000 ≠ 0 ∧
    p = e.roundTripTime ∧ l = e.localFrameAdvantage ∧ r = e.remoteFrameAdvantage := by
  unfold networkStats at h
  split at h
  · cases h
  · rename_i hst
    simp only at h
    split at h
    · cases h
    · rename_i hg
      cases h
      simp only [Bool.and_eq_true, bne_iff_ne, ne_eq, not_and, Decidable.not_not] at hst
      simp only [Bool.or_eq_true, beq_iff_eq, Bool.not_eq_true', not_or, Bool.not_eq_false] at hg
      exact ⟨Decidable.or_iff_not_imp_left.mpr hst, hg.2, hg.1, rfl, rfl, rfl⟩

/-- No measurement, no numbers. -/
theorem C15_no_numbers_before_measurement (e : Endpoint) (now : Nat) (h : e.roundTripTimeMeasured = false) :
    e.networkStats now = .notSynchronized ∨ e.networkStats now = .notEnoughData := by
  unfold networkStats
  split
  · exact Or.inl rfl
  · right
    simp [h]

end Ggrs.Endpoint

