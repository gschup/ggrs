/-
C09 — Desync detection: no false alarm, a real divergence is caught.

Proved: a checksum is reported (sent to peers and remembered locally) only for a frame at or
below the sync layer's last confirmed frame — whose state is final — and nothing at all happens
while the next report frame is not yet confirmed (`C09_no_report_before_confirmation`, `C09_off`,
`C09_report_sent`). `C09_reports_are_replay` (on `CInv2_run`, `reported_is_replay`,
Proofs/Checksums.lean; `_drops`: with dropped players, Proofs/DropGame.lean): the checksum a report
carries is the checksum of the serial replay of the session's own timeline up to the reported,
confirmed frame — a function of the inputs alone, which is what makes two peers' reports for a frame
equal. `C09_compare_exact`, `C09_compare_no_false_alarm`, `C09_compare_detects`,
`C09_compare_sound`: the comparison of one endpoint's pending reports with the local history, every
state.
The two halves composed across peers over whole runs (reports on the wire, report frames that
coincide) are decided on traces (monitor C09, families desync/glitch).
-/
import GgrsModel.Model.Inventory
import GgrsModel.Model.Sites.P2pSession
import GgrsModel.Model.Sites.Protocol
import GgrsModel.Model.Sites.SyncLayer
import GgrsModel.Model.P2P
import GgrsModel.Proofs.Monad
import GgrsModel.Proofs.Checksums
import GgrsModel.Proofs.DropGame

namespace Ggrs.P2P

/-- While the next report frame is above the last confirmed frame, `check_checksum_send_interval`
changes nothing: no report leaves, nothing is stored for comparison. -/
theorem C09_no_report_before_confirmation (s : P2P) (now interval : Nat)
    (hd : s.desync = some interval) (hlate : ¬ s.nextReportFrame interval ≤ s.sync.lastConfirmedFrame) :
    s.checkChecksumSendInterval now = .ok s := by
  unfold checkChecksumSendInterval checksumCellToReport
  simp only [hd, hlate, if_false, pure, Except.pure, bind, Except.bind]

/-- Desync detection switched off: nothing is ever reported. -/
theorem C09_off (s : P2P) (now : Nat) (hd : s.desync = none) :
    s.checkChecksumSendInterval now = .ok s ∧ s.compareLocalChecksumsAgainstPeers = s := by
  constructor
  · unfold checkChecksumSendInterval; simp [hd, pure, Except.pure]
  · unfold compareLocalChecksumsAgainstPeers; simp [hd]

end Ggrs.P2P

namespace Ggrs

/-- **C09, what is reported (rollback mode, sparse saving or not, no disconnected players, delay
changes allowed).** Run ANY interleaving of local input submissions, remote-input arrivals, delay
changes, checksum reports and comparisons, wait recommendations, and `advance_frame` calls whose
requests a deterministic game executes, its saves handing over `csf` of the saved state. Then
whenever a report is due, the cell it is taken from holds a frame `f` with
`next report frame ≤ f ≤ last confirmed frame`, and the checksum reported (and remembered for the
comparison with the peers' reports) is `csf` of the serial replay of the game's timeline up to `f` —
rows which `C01_timeline_partial` shows to be the real inputs, final for a confirmed frame. -/
theorem C09_reports_are_replay {G : Type} (step : G → List (Input × InputStatus) → G) (g0 : G) (csf : G → Option Nat)
    (a b : P2P × GS G) (h0 : CInv2 step g0 csf a) (hrun : CWStar step csf a b) (interval : Nat) (cell : Cell)
    (hc : b.1.checksumCellToReport interval = .ok (some cell)) :
    0 ≤ cell.frame ∧ cell.frame ≤ b.1.sync.lastConfirmedFrame ∧ b.1.nextReportFrame interval ≤ cell.frame ∧
    cell.checksum = csf (replay step g0 b.2.R cell.frame.toNat) := by
  obtain ⟨hd, hck⟩ := CInv2_run step g0 csf a b h0 hrun
  exact reported_is_replay step g0 csf b.1 b.2 ⟨hd.1, hck⟩ interval cell hc

/-- What `check_checksum_send_interval` does with that cell (every state): the report
`(cell.frame, checksum)` goes to every remote endpoint and into the local history. -/
theorem C09_report_sent (s s' : P2P) (now interval : Nat) (cell : Cell) (cs : Nat) (hd : s.desync = some interval)
    (hc : s.checksumCellToReport interval = .ok (some cell)) (hcs : cell.checksum = some cs)
    (h : s.checkChecksumSendInterval now = .ok s') :
    s'.lastSentChecksumFrame = cell.frame ∧
    s'.remotes = s.remotes.map (fun p => (p.1, p.2.sendChecksumReport now cell.frame cs)) ∧
    (alookup cell.frame (ainsert cell.frame cs s.localChecksumHistory) = some cs) := by
  unfold P2P.checkChecksumSendInterval at h
  simp only [hd, hc, hcs, bind, Except.bind] at h
  have := pure_ok h
  subst this
  exact ⟨rfl, rfl, alookup_ainsert_self _ _ _⟩

end Ggrs

namespace Ggrs

/-- The hypotheses of `C09_reports_are_replay` are met by a freshly built session. -/
example {G : Type} (step : G → List (Input × InputStatus) → G) (g0 : G) (csf : G → Option Nat) (s : P2P)
    (R : Nat → List (Input × InputStatus)) (cellG : Nat → G) (n : Nat)
    (hq : s.sync.queues = List.replicate n InputQueue.new) (hst : s.localConnectStatus = List.replicate n {})
    (hc : s.sync.currentFrame = 0) (hls : s.sync.lastSavedFrame = NULL_FRAME)
    (hcells : s.sync.cells = List.replicate (s.maxPrediction + 1) {}) (ho : s.outgoingLocalInputs = []) :
    CInv2 step g0 csf (s, ⟨0, R, g0, cellG, fun _ => NULL_FRAME⟩) := by
  refine ⟨⟨WInv_init step g0 s R cellG n hq hst hc hls hcells, _, SessInv_init s R n hq hst hc,
    GlueInv_init s _ n (fun _ => rfl) ho hst (by rw [hq]; simp)⟩, ?_⟩
  intro i hi h0
  exfalso
  have hlen : s.sync.cells.length = s.maxPrediction + 1 := by rw [hcells]; simp
  have : (rget s.sync.cells i).frame = NULL_FRAME := by
    rw [hcells]
    rw [hlen] at hi
    simp [rget, List.getD_eq_getElem?_getD, hi]
  have h0' : 0 ≤ (rget s.sync.cells i).frame := h0
  rw [this] at h0'
  simp [NULL_FRAME] at h0'

end Ggrs

namespace Ggrs

/-- **C09, what is reported — with dropped players.** `C09_reports_are_replay` for the world with
drops (`XStep`; rollback mode, either saving mode): the checksum reported is `csf` of the serial
replay of the game's timeline up to `f` — a timeline that carries (blank, Disconnected) for the
dropped players beyond their last frames (`C07_final_timeline`), so that two survivors who settle
on the same cut-off report the same checksums. -/
theorem C09_reports_are_replay_drops {G : Type} (step : G → List (Input × InputStatus) → G) (g0 : G)
    (csf : G → Option Nat) (a b : P2P × GS G) (h0 : CInvD step g0 csf a) (hrun : CXStar step csf a b)
    (interval : Nat) (cell : Cell) (hc : b.1.checksumCellToReport interval = .ok (some cell)) :
    0 ≤ cell.frame ∧ cell.frame ≤ b.1.sync.lastConfirmedFrame ∧ b.1.nextReportFrame interval ≤ cell.frame ∧
    cell.checksum = csf (replay step g0 b.2.R cell.frame.toNat) := by
  obtain ⟨hd, hck⟩ := CInvD_run step g0 csf a b h0 hrun
  exact reported_is_replayD step g0 csf b.1 b.2 hd hck interval cell hc

/-- The premises are satisfiable: every state of the world without drops (`CInv2`) with no disconnect
scheduled. -/
example {G : Type} (step : G → List (Input × InputStatus) → G) (g0 : G) (csf : G → Option Nat) (w : P2P × GS G)
    (h : CInv2 step g0 csf w) (hdf : w.1.disconnectFrame = NULL_FRAME) : CInvD step g0 csf w :=
  ⟨WInvD_of_WInv step g0 w.1 w.2 h.1.1 hdf, h.2⟩

end Ggrs

namespace Ggrs.P2P

theorem comparePending_fold (lastConfirmed : Frame) (hist : List (Int × Nat)) (peerAddr : Nat) :
    ∀ (pending : List (Int × Nat)) (acc : List Event × List Int),
      (pending.foldl (fun acc p =>
        let r := compareOne lastConfirmed hist peerAddr p
        (acc.1 ++ r.1.toList, if r.2 then acc.2 ++ [p.1] else acc.2)) acc).1 =
      acc.1 ++ pending.flatMap fun p => (compareOne lastConfirmed hist peerAddr p).1.toList := by
  intro pending
  induction pending with
  | nil => intro acc; simp
  | cons a rest ih =>
    intro acc
    simp only [List.foldl_cons, List.flatMap_cons]
    rw [ih]
    simp [List.append_assoc]

/-- **C09, the comparison is exact.** In the order of the pending reports, one event per report that
`compareOne` flags: a report of a frame below the last confirmed frame whose local checksum is on
record and differs. -/
theorem C09_compare_exact (lastConfirmed : Frame) (hist : List (Int × Nat)) (peerAddr : Nat) (pending : List (Int × Nat)) :
    (comparePending lastConfirmed hist peerAddr pending).1 =
      pending.flatMap fun p => (compareOne lastConfirmed hist peerAddr p).1.toList := by
  unfold comparePending
  rw [comparePending_fold]
  rfl

theorem mem_compareOne {lastConfirmed : Frame} {hist : List (Int × Nat)} {peerAddr : Nat} {p : Int × Nat} {ev : Event} :
    ev ∈ (compareOne lastConfirmed hist peerAddr p).1.toList ↔
      ∃ lc, p.1 < lastConfirmed ∧ alookup p.1 hist = some lc ∧ lc ≠ p.2 ∧
        ev = Event.desyncDetected p.1 lc p.2 peerAddr := by
  unfold compareOne
  by_cases hge : p.1 ≥ lastConfirmed
  · rw [if_pos hge]
    exact ⟨nofun, fun ⟨_, hlt, _⟩ => absurd hlt (Int.not_lt.mpr hge)⟩
  · rw [if_neg hge]
    cases hl : alookup p.1 hist with
    | none => exact ⟨nofun, fun ⟨_, _, h, _⟩ => nomatch h⟩
    | some lc =>
      by_cases hne : lc = p.2
      · simp only [hne, bne_self_eq_false, Bool.false_eq_true, if_false]
        exact ⟨nofun, fun ⟨_, _, h, hn, _⟩ => absurd (Option.some.inj h).symm hn⟩
      · simp only [bne_iff_ne, ne_eq, hne, not_false_eq_true, if_true, Option.toList_some, List.mem_singleton]
        exact ⟨fun h => ⟨lc, Int.not_le.mp hge, rfl, hne, h⟩, fun ⟨_, _, h, _, he⟩ => Option.some.inj h ▸ he⟩

/-- **C09, no false alarm at the comparison.** If every pending report agrees with the local checksum
on record for its frame (as it does for two deterministic games in the same state:
`C09_reports_are_replay`), nothing is raised. -/
theorem C09_compare_no_false_alarm (lastConfirmed : Frame) (hist : List (Int × Nat)) (peerAddr : Nat)
    (pending : List (Int × Nat))
    (hagree : ∀ p ∈ pending, ∀ lc, alookup p.1 hist = some lc → lc = p.2) :
    (comparePending lastConfirmed hist peerAddr pending).1 = [] := by
  rw [C09_compare_exact, List.flatMap_eq_nil_iff]
  intro p hp
  refine List.eq_nil_iff_forall_not_mem.mpr fun ev hev => ?_
  obtain ⟨lc, _, hl, hne, _⟩ := mem_compareOne.mp hev
  exact hne (hagree p hp lc hl)

/-- **C09, a real difference is reported, with the two real checksums.** A pending report for a frame
below the last confirmed frame whose local checksum is on record and differs raises
`DesyncDetected` for that frame, carrying the local checksum on record and the one the peer
reported. -/
theorem C09_compare_detects (lastConfirmed : Frame) (hist : List (Int × Nat)) (peerAddr : Nat)
    (pending : List (Int × Nat)) (rf : Int) (rc lc : Nat) (hp : (rf, rc) ∈ pending) (hlt : rf < lastConfirmed)
    (hl : alookup rf hist = some lc) (hne : lc ≠ rc) :
    Event.desyncDetected rf lc rc peerAddr ∈ (comparePending lastConfirmed hist peerAddr pending).1 := by
  rw [C09_compare_exact, List.mem_flatMap]
  exact ⟨(rf, rc), hp, mem_compareOne.mpr ⟨lc, hlt, hl, hne, rfl⟩⟩

/-- Every event the comparison raises is a `DesyncDetected` for a pending report that really differs
from the local checksum on record. -/
theorem C09_compare_sound (lastConfirmed : Frame) (hist : List (Int × Nat)) (peerAddr : Nat)
    (pending : List (Int × Nat)) (ev : Event) (h : ev ∈ (comparePending lastConfirmed hist peerAddr pending).1) :
    ∃ rf rc lc, (rf, rc) ∈ pending ∧ rf < lastConfirmed ∧ alookup rf hist = some lc ∧ lc ≠ rc ∧
      ev = Event.desyncDetected rf lc rc peerAddr := by
  rw [C09_compare_exact, List.mem_flatMap] at h
  obtain ⟨⟨rf, rc⟩, hp, hev⟩ := h
  obtain ⟨lc, hlt, hl, hne, rfl⟩ := mem_compareOne.mp hev
  exact ⟨rf, rc, lc, hp, hlt, hl, hne, rfl⟩

end Ggrs.P2P
