/-
C17 — Session behaviour is a function of its inputs, not of hash order.

The Rust code keeps the per-frame inputs of an endpoint in a `HashMap<PlayerHandle, PlayerInput>`;
the model keeps them in a list, whose order stands for the map's iteration order. Proved for the
walks over a `HashMap`: `C17_from_inputs_order`, `C17_synctest_input_order`, `C17_gossip_order`,
`C17_frame_advantage_order`. (The executable model fixes ascending iteration everywhere else; the
repetition check of C17 runs every scenario three times with fresh hash states.)
-/
import GgrsModel.Model.Inventory
import GgrsModel.Model.Sites.P2pSession
import GgrsModel.Model.Sites.Protocol
import GgrsModel.Model.Sites.SyncTestSession
import GgrsModel.Model.P2P
import GgrsModel.Model.SyncTest
import GgrsModel.Proofs.Monad
import GgrsModel.Proofs.Queue

namespace Ggrs.Endpoint

theorem find_perm (l l' : List (Nat × PlayerInput)) (hperm : l.Perm l')
    (hnd : l.Pairwise (fun a b => a.1 ≠ b.1)) (h : Nat) :
    l.find? (·.1 == h) = l'.find? (·.1 == h) := by
  induction hperm with
  | nil => rfl
  | cons x _ ih => rw [List.find?_cons, List.find?_cons, ih (List.pairwise_cons.mp hnd).2]
  | swap x y l =>
    have hne : y.1 ≠ x.1 := (List.pairwise_cons.mp hnd).1 x List.mem_cons_self
    simp only [List.find?_cons]
    cases hy : y.1 == h with
    | false => rfl
    | true =>
      -- `x` has another key, so it is passed over
      have hx : (x.1 == h) = false := beq_false_of_ne fun hx => hne ((eq_of_beq hy).trans hx.symm)
      rw [hx]
  | trans p1 _ ih1 ih2 => exact (ih1 hnd).trans (ih2 (p1.pairwise hnd Ne.symm))

theorem fromInputs_congr (numPlayers : Nat) (inputs inputs' : List (Nat × PlayerInput))
    (hfind : ∀ h, inputs.find? (·.1 == h) = inputs'.find? (·.1 == h)) :
    fromInputs numPlayers inputs = fromInputs numPlayers inputs' := by
  unfold fromInputs
  generalize List.range numPlayers = hs, NULL_FRAME = frame, ([] : Codec.Bytes) = bytes
  induction hs generalizing frame bytes with
  | nil => rfl
  | cons h hs ih =>
    unfold fromInputs.go
    rw [hfind h]
    cases inputs'.find? (·.1 == h) with
    | none => exact ih frame bytes
    | some p =>
      simp only [bind, Except.bind]
      split
      · rfl
      · exact ih _ _

/-- **C17, wire bytes.** The frame number and bytes an endpoint puts on the wire for a frame
(`InputBytes::from_inputs`) do not depend on the order in which the map of local inputs is
traversed: they are assembled by probing the handles in ascending order. -/
theorem C17_from_inputs_order (numPlayers : Nat) (inputs inputs' : List (Nat × PlayerInput))
    (hperm : inputs.Perm inputs') (hnd : inputs.Pairwise (fun a b => a.1 ≠ b.1)) :
    fromInputs numPlayers inputs = fromInputs numPlayers inputs' :=
  fromInputs_congr numPlayers inputs inputs' (find_perm inputs inputs' hperm hnd)

end Ggrs.Endpoint

namespace Ggrs

theorem SyncLayer.addLocalInput_ok_iff (sy sy' : SyncLayer) (h : Nat) (i : PlayerInput) (f : Frame) :
    sy.addLocalInput h i = .ok (sy', f) ↔
      i.frame = sy.currentFrame ∧ h < sy.queues.length ∧
      ∃ q, (rget sy.queues h).addInput i = .ok (q, f) ∧ sy' = { sy with queues := rset sy.queues h q } := by
  unfold SyncLayer.addLocalInput
  simp only [bind_eq_ok, pure_eq_ok, ensure_eq_ok, Prod.exists, Prod.mk.injEq, exists_const, beq_iff_eq,
    decide_eq_true_eq]
  exact ⟨fun ⟨h1, h2, q, _, hq, e, ef⟩ => ⟨h1, h2, q, ef ▸ hq, e.symm⟩,
    fun ⟨h1, h2, q, hq, e⟩ => ⟨h1, h2, q, f, hq, e.symm, rfl⟩⟩

theorem addLocalInput_swap (sy sy1 sy2 : SyncLayer) (h1 h2 : Nat) (i1 i2 : PlayerInput) (f1 f2 : Frame)
    (hne : h1 ≠ h2) (ha : sy.addLocalInput h1 i1 = .ok (sy1, f1)) (hb : sy1.addLocalInput h2 i2 = .ok (sy2, f2)) :
    ∃ sy1', sy.addLocalInput h2 i2 = .ok (sy1', f2) ∧ sy1'.addLocalInput h1 i1 = .ok (sy2, f1) := by
  obtain ⟨hfa, hla, qa, hqa, rfl⟩ := (SyncLayer.addLocalInput_ok_iff ..).mp ha
  obtain ⟨hfb, hlb, qb, hqb, rfl⟩ := (SyncLayer.addLocalInput_ok_iff ..).mp hb
  simp only [rset_length, rget_rset_ne _ _ _ _ hne] at hlb hqb
  refine ⟨_, (SyncLayer.addLocalInput_ok_iff ..).mpr ⟨hfb, hlb, qb, hqb, rfl⟩,
    (SyncLayer.addLocalInput_ok_iff ..).mpr ⟨hfa, ?_, qa, ?_, ?_⟩⟩
  · rw [rset_length]; exact hla
  · rw [rget_rset_ne _ _ _ _ (Ne.symm hne)]; exact hqa
  · simp only [rset, List.set_comm _ _ hne]

theorem addLocalInputs_cons_ok (h : Nat) (inp : PlayerInput) (rest : List (Nat × PlayerInput)) (sy r : SyncLayer) :
    SyncTest.addLocalInputs ((h, inp) :: rest) sy = .ok r ↔
      ∃ sy1 f, sy.addLocalInput h inp = .ok (sy1, f) ∧ SyncTest.addLocalInputs rest sy1 = .ok r := by
  rw [SyncTest.addLocalInputs, bind_eq_ok, Prod.exists]

/-- **C17, sync test.** `SyncTestSession::advance_frame` walks its `HashMap` of local inputs in hash
order. Whatever the order, the sync layer ends up in the same state: any permutation of the entries
(one per player) gives the same result. -/
theorem C17_synctest_input_order (l l' : List (Nat × PlayerInput)) (hperm : l.Perm l')
    (hnd : l.Pairwise (fun a b => a.1 ≠ b.1)) (sy r : SyncLayer)
    (h : SyncTest.addLocalInputs l sy = .ok r) : SyncTest.addLocalInputs l' sy = .ok r := by
  induction hperm generalizing sy with
  | nil => exact h
  | cons x _ ih =>
    obtain ⟨sy1, f, h1, h⟩ := (addLocalInputs_cons_ok ..).mp h
    exact (addLocalInputs_cons_ok ..).mpr ⟨sy1, f, h1, ih (List.pairwise_cons.mp hnd).2 sy1 h⟩
  | swap x y l =>
    obtain ⟨sy1, f1, h1, h⟩ := (addLocalInputs_cons_ok ..).mp h
    obtain ⟨sy2, f2, h2, h⟩ := (addLocalInputs_cons_ok ..).mp h
    have hne : y.1 ≠ x.1 := (List.pairwise_cons.mp hnd).1 x List.mem_cons_self
    obtain ⟨sy1', ha, hb⟩ := addLocalInput_swap sy sy1 sy2 y.1 x.1 y.2 x.2 f1 f2 hne h1 h2
    exact (addLocalInputs_cons_ok ..).mpr ⟨sy1', f2, ha, (addLocalInputs_cons_ok ..).mpr ⟨sy2, f1, hb, h⟩⟩
  | trans p1 _ ih1 ih2 =>
    exact ih2 (p1.pairwise hnd Ne.symm) sy (ih1 hnd sy h)

/-- **C17, disconnect gossip.** `update_player_disconnects` combines what the running endpoints
report about a player by walking the `HashMap` of remotes; the combination (AND of "connected",
minimum of the last frames) does not depend on the order of the walk. -/
theorem C17_gossip_order (remotes remotes' : List (Nat × Endpoint)) (hperm : remotes.Perm remotes') (handle : Nat) :
    P2P.gossipOf remotes handle = P2P.gossipOf remotes' handle := by
  apply List.Perm.foldl_eq' hperm
  intro x _ y _ z
  unfold P2P.gossipStep
  cases x.2.isRunning
  · rfl
  · cases y.2.isRunning
    · rfl
    · refine Prod.ext (Bool.and_right_comm ..) ?_
      show min (min z.2 _) _ = min (min z.2 _) _
      rw [Int.min_assoc, Int.min_comm (rget x.2.peerConnectStatus handle).lastFrame, ← Int.min_assoc]

/-- What one endpoint contributes to `max_frame_advantage`: its average, if it serves at least one
player that is still connected (`g` folds the average into the running maximum). -/
theorem advantage_inner (cond : Nat → Bool) (g : Option Int → Int) (hidem : ∀ m, g (some (g m)) = g m) :
    ∀ (hs : List Nat) (m : Option Int),
    hs.foldl (fun m h => if cond h = true then some (g m) else m) m = if hs.any cond = true then some (g m) else m := by
  intro hs
  induction hs with
  | nil => intro m; simp
  | cons h rest ih =>
    intro m
    simp only [List.foldl_cons, List.any_cons]
    rw [ih]
    by_cases hc : cond h = true
    · simp only [hc, if_true, Bool.true_or]
      by_cases hr : rest.any cond = true
      · simp only [hr, if_true, hidem]
      · simp only [hr, Bool.false_eq_true, if_false]
    · simp only [hc, Bool.false_eq_true, if_false, Bool.false_or]

theorem advantage_comm (cond : Nat → Bool) (g g' : Option Int → Int)
    (hg : ∀ m, g (some (g m)) = g m) (hg' : ∀ m, g' (some (g' m)) = g' m)
    (hc : ∀ m, g' (some (g m)) = g (some (g' m))) (hs hs' : List Nat) (m : Option Int) :
    hs'.foldl (fun m h => if cond h = true then some (g' m) else m)
        (hs.foldl (fun m h => if cond h = true then some (g m) else m) m) =
      hs.foldl (fun m h => if cond h = true then some (g m) else m)
        (hs'.foldl (fun m h => if cond h = true then some (g' m) else m) m) := by
  rw [advantage_inner cond g hg, advantage_inner cond g' hg', advantage_inner cond g' hg',
    advantage_inner cond g hg]
  cases hs.any cond
  · rfl
  · cases hs'.any cond
    · rfl
    · simp only [if_true, hc]

/-- **C17, frame advantage.** `max_frame_advantage` walks the `HashMap` of remotes; the maximum it
computes (and with it `frames_ahead` and every WaitRecommendation) does not depend on the order. -/
theorem C17_frame_advantage_order (s s' : P2P) (hperm : s.remotes.Perm s'.remotes)
    (hst : s'.localConnectStatus = s.localConnectStatus) : s'.maxFrameAdvantage = s.maxFrameAdvantage := by
  simp only [P2P.maxFrameAdvantage, hst]
  congr 1
  symm
  apply List.Perm.foldl_eq' hperm
  intro x _ y _ z
  apply advantage_comm (fun h => !(rget s.localConnectStatus h).disconnected)
  -- what is left are three facts about `max` on `Int`, for `m = none` and `m = some _`
  all_goals
    intro m
    cases m <;> simp only [Int.max_assoc, Int.max_self, Int.max_comm x.2.timeSync.averageFrameAdvantage]

end Ggrs
