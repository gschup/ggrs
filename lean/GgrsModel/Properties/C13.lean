/-
C13 — SyncTestSession flags exactly the games that are not deterministic.

Proved:
* `C13_no_false_alarm` — for every deterministic game (any state type, any `step`, any checksum
  function), every player count, window, check distance, input delay, and every run of the world
  "the user adds inputs / calls advance_frame / the game executes the returned requests, its
  saves reaching the cells", `advance_frame` never returns `MismatchedChecksum`. The invariant
  behind it (`STInv`) says that the game's state, every stored state and every stored and remembered
  checksum is the serial replay of the real inputs (`rowOf`: every re-simulated row is the full row
  of real, Confirmed inputs, delayed as configured).
* the builder rejects exactly the documented configurations (`C16_synctest_rejects`);
* `C13_compare`, `C13_reports_exact`, `C13_detects` — every state, any game: the comparison step,
  what one call reports, and that a cell/history disagreement inside the window is reported by this
  very call.
Decided on traces (monitor C13, families sync / syncglitch): that a non-deterministic step leads to
such a cell/history disagreement within check_distance + 2 calls, first at the frame after it.
-/
import GgrsModel.Model.Inventory
import GgrsModel.Model.Sites.SyncTestSession
import GgrsModel.Model.Sites.SyncLayer
import GgrsModel.Model.Sites.InputQueue
import GgrsModel.Model.Sites.Builder
import GgrsModel.Properties.C16
import GgrsModel.Proofs.SyncTestProof
import GgrsModel.Proofs.SyncTestWindow

namespace Ggrs.SyncTest

theorem C13_builder (b : Builder) (pred : Predictor) :
    b.startSyncTest pred = .ok none ↔ (b.checkDist ≥ b.maxPrediction ∨ b.sparse = true) :=
  Builder.C16_synctest_rejects b pred

/-- The comparison step of `checksums_consistent`, for a frame whose cell is intact and whose
first checksum is already on record: the verdict is exactly "recorded = current", and the record
is kept (so every later re-simulation inside the window is compared against the FIRST one). -/
theorem C13_compare (s : SyncTest) (f : Frame) (cell : Cell) (first : Option Nat)
    (hpruned : ∀ p ∈ s.checksumHistory, p.1 ≥ s.sync.currentFrame - s.checkDistance)
    (hcell : s.sync.savedStateByFrame f = .ok (some cell))
    (hrec : alookup cell.frame s.checksumHistory = some first) :
    s.checksumsConsistent f = .ok (s, first == cell.checksum) := by
  unfold checksumsConsistent
  have hfilter : s.checksumHistory.filter (fun p => decide (p.1 ≥ s.sync.currentFrame - (s.checkDistance : Int))) = s.checksumHistory := by
    apply List.filter_eq_self.mpr
    intro p hp; simpa using hpruned p hp
  simp only [hfilter, hcell, bind, Except.bind, hrec, pure, Except.pure]

end Ggrs.SyncTest

namespace Ggrs

/-- **C13, first half, every run.** A sync test session built with any configuration, next to any
deterministic game: whatever the user does (adding inputs, calling `advance_frame` with or without
all inputs, executing the returned requests), a call of `advance_frame` that returns at all returns
either its requests or `InvalidRequest` — never `MismatchedChecksum`. -/
theorem C13_no_false_alarm {G : Type} (step : G → List (Input × InputStatus) → G) (g0 : G) (csf : G → Option Nat)
    (N mp cd delay : Nat) (pr : Predictor) (s0 : SyncTest) (R : Nat → List (Input × InputStatus))
    (cellG : Nat → G) (tag : Nat → Int)
    (hnew : SyncTest.new N mp cd delay pr = .ok s0)
    (w : SyncTest × GS G) (hrun : STStar step csf (s0, ⟨0, R, g0, cellG, tag⟩) w)
    (s' : SyncTest) (r : Except GgrsError (List Request)) (ha : w.1.advanceFrame = .ok (s', r)) :
    (∃ reqs, r = .ok reqs) ∨ r = .error .invalidRequest := by
  have hcd0 : s0.checkDistance = cd := by
    unfold SyncTest.new at hnew
    obtain ⟨sy, _, hnew⟩ := bind_ok hnew
    rw [← pure_ok hnew]
  by_cases hcd : 0 < cd
  · have hinit := STInv_new step g0 csf N mp cd delay pr s0 R cellG tag hcd hnew
    have hinv := STInv_run step g0 csf _ w hinit hrun
    rcases STInv_tick step g0 csf w.1 s' w.2 r hinv ha with ⟨he, _⟩ | ⟨reqs, hr, _⟩
    · exact Or.inr he
    · exact Or.inl ⟨reqs, hr⟩
  · have h0 : w.1.checkDistance = 0 := cd0_run step csf _ w (by show s0.checkDistance = 0; rw [hcd0]; omega) hrun
    obtain ⟨_, herr⟩ := advanceFrame_cd0 w.1 s' r h0 ha
    cases r with
    | ok reqs => exact Or.inl ⟨reqs, rfl⟩
    | error e => rw [herr e rfl]; exact Or.inr rfl

/-- Non-vacuity: a two-player session with check distance 2 exists; with both inputs in, its calls
return requests (2 while warming up, then load, two re-simulated frames with one save, save, advance). -/
def c13Demo : Nat → SyncTest → Option (List Nat)
  | 0, _ => some []
  | n + 1, s =>
    match (((s.addLocalInput 0 3).1.addLocalInput 1 4).1).advanceFrame with
    | .ok (s', .ok reqs) => (c13Demo n (s'.userExecute (reqs.filterMap fun r => match r with
        | .save f => some (f, some f.toNat) | _ => none))).map (reqs.length :: ·)
    | _ => none

example : (match SyncTest.new 2 8 2 0 .repeatLast with
    | .ok s0 => c13Demo 5 s0
    | _ => none) = some [2, 2, 2, 6, 6] := by decide +kernel

end Ggrs

namespace Ggrs

/-- **C13, the comparison window exactly (every state).** `stReported s`: the frames of the window
`current_frame − check_distance ..= current_frame` whose cell holds that frame with a checksum
different from the first one remembered for it (`stMismatch`), in ascending order. A call past the
warm-up (`check_distance > 0`, `current_frame > check_distance`) with `stReported s ≠ []` returns
`MismatchedChecksum` naming exactly `stReported s`; in every other case the only error a call
returns is `InvalidRequest` (`advanceFrame_reports`, Proofs/SyncTestWindow.lean). -/
theorem C13_reports_exact (s s' : SyncTest) (r : Except GgrsError (List Request))
    (h : s.advanceFrame = .ok (s', r)) :
    ((decide (s.checkDistance > 0) && decide (s.sync.currentFrame > (s.checkDistance : Int))) = true ∧ stReported s ≠ [] →
      r = .error (.mismatchedChecksum s.sync.currentFrame (stReported s))) ∧
    (((decide (s.checkDistance > 0) && decide (s.sync.currentFrame > (s.checkDistance : Int))) = false ∨ stReported s = []) →
      ∀ e, r = .error e → e = .invalidRequest) :=
  advanceFrame_reports s s' r h

end Ggrs

namespace Ggrs

/-- **C13, detection at the next call (every state).** Whatever the game is: if, when `advance_frame` is
called past the warm-up (`check_distance > 0`, `current_frame > check_distance`), some frame `f`
of the comparison window `current − check_distance ..= current` has been saved again with a
checksum different from the one remembered for it — which is what a re-simulation of `f` with a
different result leaves behind — then this very call returns `MismatchedChecksum`, and the frames
it names are exactly the frames of the window in that situation, in ascending order, `f` among
them. A frame first simulated by call `k` is re-simulated and re-saved by each of the next
`check_distance` calls and stays in the window for `check_distance + 1` calls, hence the bound
`check_distance + 2` of the header (that step is about the request pattern; it is decided on traces
for non-deterministic games). -/
theorem C13_detects (s s' : SyncTest) (r : Except GgrsError (List Request)) (h : s.advanceFrame = .ok (s', r))
    (hcd : s.checkDistance > 0) (hcur : s.sync.currentFrame > (s.checkDistance : Int))
    (f : Frame) (hlo : s.sync.currentFrame - (s.checkDistance : Int) ≤ f) (hhi : f ≤ s.sync.currentFrame)
    (hcell : (rget s.sync.cells (frameIdx f s.sync.cells.length)).frame = f)
    (c1 : Option Nat) (hhist : alookup f s.checksumHistory = some c1)
    (hne : c1 ≠ (rget s.sync.cells (frameIdx f s.sync.cells.length)).checksum) :
    r = .error (.mismatchedChecksum s.sync.currentFrame (stReported s)) ∧ f ∈ stReported s ∧
      ∀ g, g ∈ stReported s → stMismatch s g = true := by
  have hl : alookup f (stPruned s) = some c1 := by
    unfold stPruned
    rw [alookup_prune, if_pos hlo]
    exact hhist
  have hmis : stMismatch s f = true := by
    unfold stMismatch
    simp only [hl, hcell, beq_self_eq_true, Bool.true_and, Bool.not_eq_eq_eq_not, Bool.not_true, beq_eq_false_iff_ne]
    exact hne
  have hmem : f ∈ stReported s :=
    (mem_stReported s f).mpr ⟨hmis, (f - (s.sync.currentFrame - (s.checkDistance : Int))).toNat, by omega, by omega⟩
  exact ⟨(C13_reports_exact s s' r h).1 ⟨by simp [hcd, hcur], fun he => by rw [he] at hmem; cases hmem⟩, hmem,
    fun g hg => ((mem_stReported s g).mp hg).1⟩

end Ggrs

