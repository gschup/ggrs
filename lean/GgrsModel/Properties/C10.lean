/-
C10 — Surviving peers agree on the cut-off of a dropped player.

STATUS: FALSE on the unchanged tree (known finding, see KNOWN_FINDINGS.txt and DESIGN.md): with
three or more peers the survivors can keep different last frames for the dropped player and one
of them can panic. What is proved here is the part of the mechanism that does hold — the gossip
merge is monotone (`C10_gossip_monotone`), so every survivor eventually *hears* the earliest
cut-off — and the reason the property fails is recorded as a theorem about the model: adopting an
earlier cut-off never lowers the local `last_frame` of the dropped player
(`C10_last_frame_not_lowered`). At session level: `C10_same_cutoff_agree` (survivors that hold the
same last frame for the dropped player use identical entries for it on every frame) and
`C10_different_cutoffs_disagree` (survivors left with different last frames are fed the real resp.
the blank input on the frames in between).
-/
import GgrsModel.Model.Inventory
import GgrsModel.Model.Sites.P2pSession
import GgrsModel.Model.Sites.Protocol
import GgrsModel.Model.P2P
import GgrsModel.Proofs.DropWorld
import GgrsModel.Proofs.Glue

namespace Ggrs.Endpoint

/-- The gossip merge is the pointwise join: a player counts as disconnected if either side says so,
with the later of the two last frames. -/
theorem mergeStatus_getD (mine theirs : List ConnStatus) (i : Nat) (hi : i < mine.length) :
    (mergeStatus mine theirs).getD i {} =
      { disconnected := (theirs.getD i {}).disconnected || (mine.getD i {}).disconnected,
        lastFrame := max (mine.getD i {}).lastFrame (theirs.getD i {}).lastFrame } := by
  unfold mergeStatus
  have hz : mine.zipIdx[i]? = some (mine[i], i) := by
    rw [List.getElem?_zipIdx]; simp [List.getElem?_eq_getElem hi]
  simp only [List.getD_eq_getElem?_getD, List.getElem?_map, hz, Option.map_some, Option.getD_some,
    List.getElem?_eq_getElem hi]

/-- The connection-status gossip only ever moves forward: a disconnected flag is never cleared and
the last frame never decreases, whatever a packet says. -/
theorem C10_gossip_monotone (mine theirs : List ConnStatus) (i : Nat) (hi : i < mine.length) :
    ((mergeStatus mine theirs).getD i {}).lastFrame ≥ (mine.getD i {}).lastFrame ∧
    ((mine.getD i {}).disconnected = true → ((mergeStatus mine theirs).getD i {}).disconnected = true) := by
  rw [mergeStatus_getD mine theirs i hi]
  exact ⟨Int.le_max_left _ _, fun h => by rw [h]; exact Bool.or_true _⟩

end Ggrs.Endpoint

namespace Ggrs.P2P

/-- Why C10 fails: marking a player disconnected (at whatever frame another survivor reported)
sets the flag but leaves the locally recorded last frame of that player where it was. -/
theorem C10_last_frame_not_lowered (s : P2P) (h : Nat) (f : ConnStatus → ConnStatus)
    (hf : ∀ c, (f c).lastFrame = c.lastFrame) (k : Nat) :
    (rget (s.setStatus h f).localConnectStatus k).lastFrame = (rget s.localConnectStatus k).lastFrame := by
  unfold setStatus
  simp only
  by_cases hk : h = k
  · subst hk
    by_cases hl : h < s.localConnectStatus.length
    · simp [rget, rset, List.getD_eq_getElem?_getD, hl, hf]
    · simp [rget, rset, List.getD_eq_getElem?_getD, hl]
  · simp [rget, rset, List.getD_eq_getElem?_getD, List.getElem?_set_ne hk]

end Ggrs.P2P

namespace Ggrs

/-- **C10, the case that does hold: survivors with the same cut-off.** Two survivors A and B, each in a
state its own world with drops reaches (`SessInvD`, by `XInv_run`), both have the remote player `p`
marked disconnected with the SAME last frame, and what each has received of `p` is a prefix of one
common stream (`C05_stream_intact` per link). Then after their next calls the two games' timelines
carry identical entries — input and status — for `p` on every frame beyond that last frame (blank,
Disconnected), and identical inputs on every frame up to it. (When the survivors had received
different amounts, `update_player_disconnects` is supposed to bring them to the earliest cut-off;
that is where the implementation fails — `C10_last_frame_not_lowered`, the known finding.) -/
theorem C10_same_cutoff_agree (sA sB sA' sB' : P2P) (tA tB : TLState) (ghA ghB : DGhost) (stA stB : List ConnStatus)
    (hA : SessInvD sA ghA tA [] stA) (hB : SessInvD sB ghB tB [] stB) (p : Nat)
    (hpA : p < sA.sync.queues.length) (hpB : p < sB.sync.queues.length)
    (hnlA : p ∉ sA.localPlayerHandles) (hnlB : p ∉ sB.localPlayerHandles)
    (hdA : (rget sA.localConnectStatus p).disconnected = true)
    (hdB : (rget sB.localConnectStatus p).disconnected = true)
    (hL : (rget sA.localConnectStatus p).lastFrame = (rget sB.localConnectStatus p).lastFrame)
    (hlinks : ∃ S : List Input, (ghA.specs p).vals <+: S ∧ (ghB.specs p).vals <+: S)
    (nowA nowB : Nat) (reqsA reqsB : List Request)
    (hcA : sA.advanceRollbackFrame nowA [] = .ok (sA', reqsA))
    (hcB : sB.advanceRollbackFrame nowB [] = .ok (sB', reqsB)) :
    ∀ f : Nat, (f : Int) < sA'.sync.currentFrame → (f : Int) < sB'.sync.currentFrame →
      ((rget sA.localConnectStatus p).lastFrame < (f : Int) →
        ((execReqs tA reqsA).R f).getD p default = ((execReqs tB reqsB).R f).getD p default) ∧
      ((f : Int) ≤ (rget sA.localConnectStatus p).lastFrame →
        (((execReqs tA reqsA).R f).getD p default).1 = (((execReqs tB reqsB).R f).getD p default).1) := by
  obtain ⟨ghA', hspA, hA'⟩ := deadColumn_after_call sA sA' ghA tA [] reqsA stA hA nowA hcA
  obtain ⟨ghB', hspB, hB'⟩ := deadColumn_after_call sB sB' ghB tB [] reqsB stB hB nowB hcB
  intro f hfA hfB
  obtain ⟨blankA, realA⟩ := hA' p hpA hdA f hfA
  obtain ⟨blankB, realB⟩ := hB' p hpB hdB f hfB
  rw [← hL] at blankB realB
  refine ⟨fun hlf => by rw [blankA hlf, blankB hlf], fun hle => ?_⟩
  obtain ⟨eA, lenA⟩ := realA hnlA hle
  obtain ⟨eB, lenB⟩ := realB hnlB hle
  -- both streams are prefixes of one stream, and both reach frame `f`
  obtain ⟨S, hSA, hSB⟩ := hlinks
  rw [← hspA p hnlA] at hSA
  rw [← hspB p hnlB] at hSB
  rw [eA, eB, getD_of_prefix _ S hSA f (by omega), getD_of_prefix _ S hSB f (by omega)]

/-- **C10, why it fails, at session level (every such pair of states).** Two survivors A and B in states
their worlds reach, both with the remote player `p` marked disconnected, but with DIFFERENT last
frames `L_B < L_A` — which is what they are left with when B had received less of `p` than A and
`update_player_disconnects` adopts B's cut-off at A without lowering A's own `last_frame`
(`C10_last_frame_not_lowered`). Then after their next calls, on every frame `f` with
`L_B < f ≤ L_A` that both have simulated, A's game was last simulated with `p`'s real input of `f`
and B's game with the blank input: whenever that real input is not the blank one, the two games are
fed different inputs for the dropped player, and their states diverge. -/
theorem C10_different_cutoffs_disagree (sA sB sA' sB' : P2P) (tA tB : TLState) (ghA ghB : DGhost)
    (stA stB : List ConnStatus)
    (hA : SessInvD sA ghA tA [] stA) (hB : SessInvD sB ghB tB [] stB) (p : Nat)
    (hpA : p < sA.sync.queues.length) (hpB : p < sB.sync.queues.length)
    (hnlA : p ∉ sA.localPlayerHandles)
    (hdA : (rget sA.localConnectStatus p).disconnected = true)
    (hdB : (rget sB.localConnectStatus p).disconnected = true)
    (nowA nowB : Nat) (reqsA reqsB : List Request)
    (hcA : sA.advanceRollbackFrame nowA [] = .ok (sA', reqsA))
    (hcB : sB.advanceRollbackFrame nowB [] = .ok (sB', reqsB))
    (f : Nat) (hfA : (f : Int) < sA'.sync.currentFrame) (hfB : (f : Int) < sB'.sync.currentFrame)
    (hlo : (rget sB.localConnectStatus p).lastFrame < (f : Int))
    (hhi : (f : Int) ≤ (rget sA.localConnectStatus p).lastFrame) :
    ∃ ghA' : DGhost, ghA'.specs p = ghA.specs p ∧
      (((execReqs tA reqsA).R f).getD p default).1 = (ghA.specs p).vals.getD f 0 ∧
      ((execReqs tB reqsB).R f).getD p default = (0, .disconnected) := by
  obtain ⟨ghA', hspA, hA'⟩ := deadColumn_after_call sA sA' ghA tA [] reqsA stA hA nowA hcA
  obtain ⟨_, _, hB'⟩ := deadColumn_after_call sB sB' ghB tB [] reqsB stB hB nowB hcB
  refine ⟨ghA', hspA p hnlA, ?_, (hB' p hpB hdB f hfB).1 hlo⟩
  rw [← hspA p hnlA]
  exact (((hA' p hpA hdA f hfA).2 hnlA hhi)).1

end Ggrs

