/-
C02 — The request list of every advance_frame call is executable and frame-consistent
(the producers of the three request kinds).

The frame-consistency check `ChkList`: every SaveGameState names the frame the game is at, every
LoadGameState names an earlier frame whose cell is tagged with it and still holds a state of the
CURRENT timeline, AdvanceFrame requests move one frame on. `GInv_execs` (Proofs/Replay.lean) turns a
passed check into "the game's state is the replay of its timeline and every load restored the state
of the loaded frame".
`C02_consistent_partial` (on `WInv_run` and `WInv_tick`, Proofs/World.lean): all schedules,
rollback-mode P2P sessions without disconnected players, with or without sparse saving.
`C02_consistent_delay`: with `set_input_delay` calls. `C02_entry_point`: the calls are calls of
`advanceFrameCore` (the body of `advance_frame_after_poll` up to the trimming of the event queue)
itself. `C02_consistent_drops`, `C02_entry_point_drops`, `C02_entry_point_gossip`: with dropped
players — drops detected locally, and cut-offs adopted from the other peers' reports except the case
of the C10 finding. `C02_poll_core`: the poll in front of it reaches the session core only through
`handle_event`.
SyncTest and spectator sessions are decided by the monitor on traces (their request lists are
checked by the same clauses there).
-/
import GgrsModel.Model.Inventory
import GgrsModel.Proofs.Demo
import GgrsModel.Model.Sites.P2pSession
import GgrsModel.Model.Sites.SyncLayer
import GgrsModel.Model.Sites.SyncTestSession
import GgrsModel.Model.Sites.SpectatorSession
import GgrsModel.Proofs.Queue
import GgrsModel.Proofs.World
import GgrsModel.Proofs.DelayStep
import GgrsModel.Proofs.EntryPoint
import GgrsModel.Proofs.DropGame
import GgrsModel.Proofs.EntryDrop
import GgrsModel.Proofs.PollCore

namespace Ggrs.SyncLayer

/-- Every SaveGameState request names the frame the session is at. -/
theorem C02_save_names_current (s s' : SyncLayer) (r : Request) (h : s.saveCurrentState = .ok (s', r)) :
    r = .save s.currentFrame ∧ s'.lastSavedFrame = s.currentFrame ∧ s'.currentFrame = s.currentFrame := by
  obtain ⟨_, rfl, rfl⟩ := saveCurrentState_ok h
  exact ⟨rfl, rfl, rfl⟩

/-- Every LoadGameState request names an earlier frame whose cell, at that moment, holds a state
saved for exactly that frame (anything else is the library's assertion, a panic). -/
theorem C02_load_cell (s s' : SyncLayer) (f : Frame) (r : Request) (h : s.loadFrame f = .ok (s', r)) :
    r = .load f ∧ f < s.currentFrame ∧ (rget s.cells (frameIdx f s.cells.length)).frame = f := by
  obtain ⟨_, hlt, _, hcell, _, hr⟩ := loadFrame_ok h
  exact ⟨hr, hlt, hcell⟩

/-- The user's save really lands in the cell a later load of the same frame reads. -/
theorem C02_save_then_cell (s : SyncLayer) (f : Frame) (cs : Option Nat)
    (hlen : frameIdx f s.cells.length < s.cells.length) :
    (rget (s.userSave f cs).cells (frameIdx f (s.userSave f cs).cells.length)) = ⟨f, cs⟩ := by
  simp only [userSave, rset_length]
  exact rget_rset_eq _ _ _ hlen

end Ggrs.SyncLayer

namespace Ggrs

theorem plainSaves_frames (reqs : List Request) :
    ((savedFrames reqs).map fun f => (f, (none : Option Nat))).map (·.1) = savedFrames reqs := by
  simp [List.map_map, Function.comp_def]

theorem WInv_callOK {G : Type} (step : G → List (Input × InputStatus) → G) (g0 : G) (s s' : P2P) (x : GS G)
    (now : Nat) (reqs' : List Request) (h : WInv step g0 s x)
    (hcall : s.advanceRollbackFrame now [] = .ok (s', reqs') ∨
      ∃ sy r, s.sync.currentFrame = 0 ∧ s.sync.saveCurrentState = .ok (sy, r) ∧
        ({ s with sync := sy } : P2P).advanceRollbackFrame now [r] = .ok (s', reqs')) :
    TickOK step g0 s x s' reqs' := by
  rcases hcall with hadv | ⟨sy, r, hf0, hsv, hadv⟩
  · exact (WInv_tick step g0 s s' x now reqs' _ h hadv (plainSaves_frames reqs')).2
  · exact (WInv_tick0 step g0 s s' x now sy r reqs' _ h hf0 hsv hadv (plainSaves_frames reqs')).2

theorem WInvD_callOK {G : Type} (step : G → List (Input × InputStatus) → G) (g0 : G) (s s' : P2P) (x : GS G)
    (now : Nat) (reqs' : List Request) (h : WInvD step g0 s x)
    (hcall : s.advanceRollbackFrame now [] = .ok (s', reqs') ∨
      ∃ sy r, s.sync.currentFrame = 0 ∧ s.sync.saveCurrentState = .ok (sy, r) ∧
        ({ s with sync := sy } : P2P).advanceRollbackFrame now [r] = .ok (s', reqs')) :
    TickOK step g0 s x s' reqs' := by
  rcases hcall with hadv | ⟨sy, r, hf0, hsv, hadv⟩
  · exact (WInvD_tick step g0 s s' x now reqs' _ h hadv (plainSaves_frames reqs')).2
  · exact (WInvD_tick0 step g0 s s' x now sy r reqs' _ h hf0 hsv hadv (plainSaves_frames reqs')).2

theorem TickOK.entry {G : Type} {step : G → List (Input × InputStatus) → G} {g0 : G} {s1 s3 s' : P2P} {x : GS G}
    {reqs' : List Request} {n : Nat} (h : TickOK step g0 s1 x s3 reqs') (hn : s1.sync.cells.length = n)
    (hc3 : P2P.SameCore s3 s') :
    ∃ c c', GInv step g0 n x c ∧ ChkList n c reqs' c' ∧ c'.cur = s'.sync.currentFrame := by
  obtain ⟨⟨c, c', hg, hchk, hcur⟩, _⟩ := h
  subst hn
  exact ⟨c, c', hg, hchk, by rw [hcur, hc3.sync]⟩

/-- **C02, all schedules (partial: rollback mode, no disconnected players; sparse saving or not).**
For every run of the world (local inputs submitted, remote inputs arriving, `advance_frame` calls
whose request lists the game executes in order, its saves reaching the cells), the next call's
request list passes the frame-consistency check from a check state that matches the game (`GInv`),
and ends at `current_frame()`, unchanged or one higher. -/
theorem C02_consistent_partial {G : Type} (step : G → List (Input × InputStatus) → G) (g0 : G)
    (a b : P2P × GS G) (h0 : WInv step g0 a.1 a.2) (hrun : WStar step a b)
    (now : Nat) (reqs' : List Request) (s' : P2P)
    (hadv : b.1.advanceRollbackFrame now [] = .ok (s', reqs')) :
    TickOK step g0 b.1 b.2 s' reqs' := by
  exact WInv_callOK step g0 b.1 s' b.2 now reqs' (WInv_run step g0 a b h0 hrun) (Or.inl hadv)

/-- The same for the first call, which saves frame 0 before anything else. -/
theorem C02_consistent_first_call {G : Type} (step : G → List (Input × InputStatus) → G) (g0 : G)
    (a b : P2P × GS G) (h0 : WInv step g0 a.1 a.2) (hrun : WStar step a b)
    (now : Nat) (sy : SyncLayer) (r : Request) (reqs' : List Request) (s' : P2P)
    (hf0 : b.1.sync.currentFrame = 0) (hsv : b.1.sync.saveCurrentState = .ok (sy, r))
    (hadv : ({ b.1 with sync := sy } : P2P).advanceRollbackFrame now [r] = .ok (s', reqs')) :
    TickOK step g0 b.1 b.2 s' reqs' := by
  exact WInv_callOK step g0 b.1 s' b.2 now reqs' (WInv_run step g0 a b h0 hrun) (Or.inr ⟨sy, r, hf0, hsv, hadv⟩)

end Ggrs

namespace Ggrs

/-- `C02_consistent_partial` for runs that also contain `set_input_delay` calls of local players
(they touch neither the game nor the cells). -/
theorem C02_consistent_delay {G : Type} (step : G → List (Input × InputStatus) → G) (g0 : G)
    (a b : P2P × GS G) (h0 : DWInv step g0 a) (hrun : DWStar step a b)
    (now : Nat) (reqs' : List Request) (s' : P2P)
    (hadv : b.1.advanceRollbackFrame now [] = .ok (s', reqs')) :
    TickOK step g0 b.1 b.2 s' reqs' := by
  exact WInv_callOK step g0 b.1 s' b.2 now reqs' (DWInv_run step g0 a b h0 hrun).1 (Or.inl hadv)

end Ggrs

namespace Ggrs

/-- **C02 (and with it C01, C04, C09, C11) at the real entry point.** Take any run of the world in
which the calls may be calls of `advanceFrameCore` itself: desync bookkeeping, the extra save of
frame 0 on the first call, `update_player_disconnects`, `advance_rollback_frame`, the wait
recommendation. For a successful rollback-mode call made while no running endpoint reports a
disconnected player (`NoGossip`), with the game executing the returned requests: the request list
passes the frame-consistency check from a check state that matches the game and ends at the new
`current_frame()`, and the world invariant (session, game = replay, cells, their checksums, outgoing
queue) holds again — so every all-schedules theorem applies to the next call. -/
theorem C02_entry_point {G : Type} (step : G → List (Input × InputStatus) → G) (g0 : G) (csf : G → Option Nat)
    (a b : P2P × GS G) (h0 : CInv2 step g0 csf a) (hrun : CWStar step csf a b)
    (now : Nat) (s' : P2P) (reqs' : List Request)
    (hmp : (b.1.maxPrediction == 0) = false)
    (hng : ∀ s1, b.1.desyncPhase now = .ok s1 → NoGossip s1)
    (hcall : b.1.advanceFrameCore now = .ok (s', .ok reqs')) :
    CInv2 step g0 csf
      (s'.userExecute (gameSaves step csf b.1.sync.cells.length b.2 reqs'), execGs step b.1.sync.cells.length b.2 reqs') ∧
    ∃ c c', GInv step g0 b.1.sync.cells.length b.2 c ∧ ChkList b.1.sync.cells.length c reqs' c' ∧
      c'.cur = s'.sync.currentFrame := by
  have hb := CInv2_run step g0 csf a b h0 hrun
  obtain ⟨hpath, s1, s3, hp1, hc1, hc3, hform⟩ := call_is_path step csf b.1 s' b.2 now reqs' hmp hng hcall
  have h1 := (CInv2_run step g0 csf b (s1, b.2) hb hp1).1.1
  exact ⟨CInv2_run step g0 csf b _ hb hpath,
    (WInv_callOK step g0 s1 s3 b.2 now reqs' h1 hform).entry (by rw [hc1.sync]) hc3⟩

/-- **C02 (and C01's state clause) with dropped players.** Take any run of the world with drops and
a game: as before, plus accepted `disconnect_player` calls, Disconnected events of endpoints and
adopted cut-offs (`XStep.adopt`); rollback mode, either saving mode. Then the next call's request
list passes the frame-consistency check from a check state that matches the game — the
re-simulation that a drop triggers included — it ends at `current_frame()`, unchanged or one
higher, and the game's state is the serial replay of its own timeline, whose rows carry
(blank, Disconnected) for the dropped players beyond their last frames (`C07_final_timeline`). -/
theorem C02_consistent_drops {G : Type} (step : G → List (Input × InputStatus) → G) (g0 : G)
    (a b : P2P × GS G) (h0 : WInvD step g0 a.1 a.2) (hrun : XWStar step a b)
    (now : Nat) (reqs' : List Request) (s' : P2P)
    (hadv : b.1.advanceRollbackFrame now [] = .ok (s', reqs')) :
    TickOK step g0 b.1 b.2 s' reqs' ∧
    b.2.cur = b.1.sync.currentFrame ∧ b.2.g = replay step g0 b.2.R b.2.cur.toNat := by
  have h := WInvD_run step g0 a b h0 hrun
  obtain ⟨c, hc, hg, _, _⟩ := h.chk
  exact ⟨WInvD_callOK step g0 b.1 s' b.2 now reqs' h (Or.inl hadv), hg.cur.trans hc, hg.state⟩

/-- The premises are satisfiable: every state of the world without drops (`WInv`) with no disconnect
scheduled. -/
example {G : Type} (step : G → List (Input × InputStatus) → G) (g0 : G) (s : P2P) (x : GS G)
    (h : WInv step g0 s x) (hdf : s.disconnectFrame = NULL_FRAME) : WInvD step g0 s x :=
  WInvD_of_WInv step g0 s x h hdf

/-- **C02 at the real entry point with drops, the other peers' reports included.** As
`C02_entry_point_drops`, but `update_player_disconnects` may act: every cut-off it adopts from the
running endpoints' reports is a step of the world (`XStep.adopt`) as long as it is one the world
allows (`UpdOK`) — not beyond the last frame of a still-connected player of that endpoint, and not
before the last frame of a player that is already marked. The excluded case, a cut-off earlier
than an already dropped player's last frame, is the known finding of C10 (the session then
re-simulates frames whose inputs it has discarded, or keeps its own later cut-off). On the very
first call (frame 0) no adoption is assumed. -/
theorem C02_entry_point_gossip {G : Type} (step : G → List (Input × InputStatus) → G) (g0 : G) (csf : G → Option Nat)
    (a b : P2P × GS G) (h0 : CInvD step g0 csf a) (hrun : CXStar step csf a b)
    (now : Nat) (s' : P2P) (reqs' : List Request)
    (hmp : (b.1.maxPrediction == 0) = false)
    (hng : ∀ s1, b.1.desyncPhase now = .ok s1 →
      (s1.sync.currentFrame = 0 → QuietGossip s1) ∧ UpdOK now (List.range s1.numPlayers) s1)
    (hcall : b.1.advanceFrameCore now = .ok (s', .ok reqs')) :
    CInvD step g0 csf
      (s'.userExecute (gameSaves step csf b.1.sync.cells.length b.2 reqs'), execGs step b.1.sync.cells.length b.2 reqs') ∧
    ∃ c c', GInv step g0 b.1.sync.cells.length b.2 c ∧ ChkList b.1.sync.cells.length c reqs' c' ∧
      c'.cur = s'.sync.currentFrame := by
  have hb := CInvD_run step g0 csf a b h0 hrun
  obtain ⟨hpath, sm, s3, hpm, hn, hc3, hform⟩ := call_is_pathG step csf b.1 s' b.2 now reqs' hmp hng hcall
  have h1 := (CInvD_run step g0 csf b (sm, b.2) hb hpm).1
  exact ⟨CInvD_run step g0 csf b _ hb hpath, (WInvD_callOK step g0 sm s3 b.2 now reqs' h1 hform).entry hn hc3⟩

/-- `QuietGossip` is the special case in which nothing is adopted. -/
example (now : Nat) (s : P2P) (h : QuietGossip s) : UpdOK now (List.range s.numPlayers) s :=
  UpdOK_of_quiet now _ s h

/-- **C02 (with C01's state clause and C09's reports) at the real entry point, with dropped players.**
As `C02_entry_point`, for the world with drops, for a call made while the running endpoints' gossip
tells the session nothing new (`QuietGossip`: whoever they report as disconnected is already marked
here with a last frame no later than theirs; in a two-peer session after the drop there is no
running endpoint left). The world invariant with dead players holds again, so every all-schedules
theorem about drops applies to the next call of the entry point. -/
theorem C02_entry_point_drops {G : Type} (step : G → List (Input × InputStatus) → G) (g0 : G) (csf : G → Option Nat)
    (a b : P2P × GS G) (h0 : CInvD step g0 csf a) (hrun : CXStar step csf a b)
    (now : Nat) (s' : P2P) (reqs' : List Request)
    (hmp : (b.1.maxPrediction == 0) = false)
    (hng : ∀ s1, b.1.desyncPhase now = .ok s1 → QuietGossip s1)
    (hcall : b.1.advanceFrameCore now = .ok (s', .ok reqs')) :
    CInvD step g0 csf
      (s'.userExecute (gameSaves step csf b.1.sync.cells.length b.2 reqs'), execGs step b.1.sync.cells.length b.2 reqs') ∧
    ∃ c c', GInv step g0 b.1.sync.cells.length b.2 c ∧ ChkList b.1.sync.cells.length c reqs' c' ∧
      c'.cur = s'.sync.currentFrame := by
  -- quiet gossip is the case of `C02_entry_point_gossip` in which nothing is adopted
  exact C02_entry_point_gossip step g0 csf a b h0 hrun now s' reqs' hmp
    (fun s1 h1 => ⟨fun _ => hng s1 h1, UpdOK_of_quiet now _ s1 (hng s1 h1)⟩) hcall

/-- **The poll in front of the entry point (every state).** `advance_frame` is
`poll_remote_clients` followed by `advance_frame_after_poll` (`advanceFrameCore`, then the event
queue is trimmed). Whatever messages arrive, the poll changes the core of the session — sync layer,
queues, connection statuses, disconnect frame: everything the session theorems are about — only by
running `handle_event`, in order, on the events its endpoints raised; of those, only Input events
(the `remoteInput` step of the worlds) and Disconnected events (the `dropEvent` step) touch the core
(`handleEventCore_other`). NOT derived here: that the events satisfy the side conditions of those
steps (a remote player's handle, a non-negative frame, the endpoint's players); that is what the
endpoint theorems (C05_stream_intact, C12_event_language) and trace acceptance provide. -/
theorem C02_poll_core (s s' : P2P) (now : Nat) (received : List (Nat × Msg))
    (h : s.pollRemoteClients now received = .ok s') :
    ∃ (s0 s1 : P2P) (evs : List (ProtoEvent × List Nat × Nat)), P2P.SameCore s s0 ∧
      evs.foldlM (fun s (x : ProtoEvent × List Nat × Nat) => s.handleEvent now x.1 x.2.1 x.2.2) s0 = .ok s1 ∧
      P2P.SameCore s1 s' :=
  P2P.poll_core s s' now received h

end Ggrs

namespace Ggrs

/-- **Non-vacuity of the world with a game.** For every game a freshly built session satisfies the
world invariant, and `WStar` contains the run the theorems are meant for: the user submits an input,
the FIRST call (which saves frame 0 before anything else) simulates frame 0 with a prediction, the
real remote input arrives and contradicts it, the user submits again, and the second call rolls
back — it loads frame 0. -/
theorem C02_world_nonvacuous {G : Type} (step : G → List (Input × InputStatus) → G) (g0 : G) (cellG : Nat → G) :
    WInv step g0 demoSession ⟨0, fun _ => [], g0, cellG, fun _ => NULL_FRAME⟩ ∧
    (∃ x', WStar step (demoSession, ⟨0, fun _ => [], g0, cellG, fun _ => NULL_FRAME⟩) (demoW2, x')) ∧
    demoW2.sync.currentFrame = 2 ∧
    (getOk demoW1r).2.head? = some (.save 0) ∧
    (getOk demoW2r).2.any (fun r => match r with | .load 0 => true | _ => false) = true :=
  ⟨WInv_init step g0 demoSession (fun _ => []) cellG 2 rfl rfl rfl rfl rfl, demo_world_run step _, demo_frameW2,
    demo_reqsW.1, demo_reqsW.2⟩

end Ggrs

