/-
C05 — Transient network faults never wedge a session (the acknowledgement discipline).

The repaired `on_input` (F2) answers every well-formed input packet that passes the shape checks
with an InputAck carrying the receiver's newest frame, whether or not its payload could be decoded
against an input the receiver still holds (`C05_undecodable_is_acked`). This is the step that makes
the sender's retransmission loop converge after any number of lost acknowledgements.

`C05_stream_intact` and `C05_link_recovers` are the link-level theorems (Proofs/RecvStream*.lean,
Proofs/Link.lean): sender endpoint and receiver endpoint joined by a network that may lose,
duplicate, delay and reorder every message in both directions, for schedules of any length. The
second holds for the repaired `on_input` only; F2: a receiver that had pruned the sender's reference
input never answered, so the window never moved. Decided on traces only: the session level above
the link (frames advance again, no Disconnected event; monitor clause `no-progress`, families
loss/specack). The handshake under loss: `C12_handshake` is its safety, `C05_handshake_round`,
`C05_handshake_retry`, `C05_handshake_completes` its liveness in the bounded-recovery form: from
every synchronizing state with a request outstanding — there always is one — `r` round trips that
come through make the endpoint Running, whatever was lost before, and the retry timer keeps
offering new ones.
-/
import GgrsModel.Model.Inventory
import GgrsModel.Model.Sites.Protocol
import GgrsModel.Model.Sites.P2pSession
import GgrsModel.Model.Sites.SpectatorSession
import GgrsModel.Proofs.Endpoint
import GgrsModel.Proofs.Link

namespace Ggrs.Endpoint
open Codec (Bytes)

/-- A packet whose reference input the receiver no longer holds (pruned after lost acks) or never
held is acknowledged with the receiver's newest frame; nothing else changes. -/
theorem C05_undecodable_is_acked (e : Endpoint) (now : Nat) (sf : Frame) (bytes : Bytes)
    (href : alookup (if e.lastRecvFrame == NULL_FRAME then NULL_FRAME else sf - 1) e.recvInputs = none) :
    e.decodeInputs now sf bytes = e.sendInputAck now ∧
    (e.decodeInputs now sf bytes).sendQueue = e.sendQueue ++ [⟨e.magic, .inputAck e.lastRecvFrame⟩] := by
  have h1 : e.decodeInputs now sf bytes = e.sendInputAck now := decodeInputs_of_none href
  exact ⟨h1, by rw [h1]; rfl⟩

/-- The sender drops everything the acknowledgement covers: after `pop_pending_output ack` every
pending input is newer than `ack`, provided the pending frames are increasing (they are
consecutive by construction). -/
theorem C05_ack_pops (e : Endpoint) (ack : Frame)
    (hinc : e.pendingOutput.Pairwise (fun a b => a.frame < b.frame)) :
    ∀ x ∈ (e.popPendingOutput ack).pendingOutput, x.frame > ack := by
  unfold popPendingOutput
  simp only
  have key : ∀ (l : List InputBytes) (la : InputBytes), l.Pairwise (fun a b => a.frame < b.frame) →
      ∀ x ∈ (popPendingOutput.go ack l la).1, x.frame > ack := by
    intro l
    induction l with
    | nil => intro la _ x hx; simp [popPendingOutput.go] at hx
    | cons y ys ih =>
      intro la hp x hx
      unfold popPendingOutput.go at hx
      by_cases hy : y.frame ≤ ack
      · simp only [hy, if_true] at hx
        exact ih y (List.Pairwise.of_cons hp) x hx
      · simp only [hy, if_false] at hx
        rcases List.mem_cons.mp hx with rfl | hin
        · exact Int.not_le.mp hy
        · have := (List.pairwise_cons.mp hp).1 x hin
          exact Int.lt_trans (Int.not_le.mp hy) this
  exact key e.pendingOutput e.lastAckedInput hinc

end Ggrs.Endpoint

namespace Ggrs
open Codec (Bytes)

/-- **C05, stream intact.** Start from any state satisfying the link invariant (two endpoints right
after the handshake do: `LInv_init`). After ANY schedule of input submissions, retransmissions,
deliveries of any Input message ever sent (lost = never delivered, duplicated = delivered twice,
reordered = delivered in any order) and deliveries of any acknowledgement, the Input events the
receiver has raised are exactly the events of the stream's frames `f0 .. newest received`, in
order, the receiver's newest frame is one that has been submitted, and the invariant still holds. -/
theorem C05_stream_intact (S : SStream) (hsize : S.width ≤ 65535) (st st' : Link) (h : LInv S st)
    (hrun : LStar S st st') :
    LInv S st' ∧
    st'.b.eventQueue = evsRange S st'.b.handles S.f0 (nextFrame st'.b S - S.f0).toNat ∧
    st'.b.lastRecvFrame ≤ (S.f0 : Int) + st'.k - 1 :=
  have h' := L_link S hsize st st' h hrun
  ⟨h', h'.events, h'.causal⟩

/-- **C05, recovery.** From every state reachable under any fault schedule, one clean exchange (ack,
retransmission, ack) brings the receiver fully up to date and empties the sender's window (see
`L_link_recovers`). -/
theorem C05_link_recovers (S : SStream) (hsize : S.width ≤ 65535) (st st' : Link) (h : LInv S st)
    (hrun : LStar S st st') (now now' : Nat) (cs : List ConnStatus) (a2 : Endpoint)
    (hs : (st'.a.popPendingOutput st'.b.lastRecvFrame).sendPendingOutput now cs = .ok a2) :
    (a2.sendQueue = st'.a.sendQueue ∧ nextFrame st'.b S = (S.f0 : Int) + st'.k ∧ a2.pendingOutput = []) ∨
    (∃ m cs' d start ack bytes, a2.sendQueue = st'.a.sendQueue ++ [m] ∧ m.body = .input cs' d start ack bytes ∧
      start = nextFrame st'.b S ∧
      (st'.b.decodeInputs now' start bytes).lastRecvFrame = (S.f0 : Int) + st'.k - 1 ∧
      (a2.popPendingOutput (st'.b.decodeInputs now' start bytes).lastRecvFrame).pendingOutput = []) :=
  L_link_recovers S hsize st' (L_link S hsize st st' h hrun) now now' cs a2 hs

/-- The sender never holds more than `PENDING_OUTPUT_SIZE + 1` unacknowledged inputs as long as the
session stops submitting once the window is full (it disconnects the endpoint then): C18's bound
on unacknowledged inputs, for every schedule. -/
theorem C05_window_bounded (S : SStream) (hsize : S.width ≤ 65535) (st st' : Link) (h : LInv S st)
    (hrun : LStar S st st') : st'.a.pendingOutput.length ≤ PENDING_OUTPUT_SIZE + 1 :=
  (L_link S hsize st st' h hrun).pending_le

/-! The receiver's half of the hypothesis `LInv` is satisfiable: a freshly built endpoint satisfies
`RInv` (the premise `hb` of `LInv_init`) for a stream of two one-byte inputs `[5]`, `[6]` starting
at frame 0. -/
-- `Endpoint.new` (handles := [0]) (peerAddr := 1) (numPlayers := 2) (localPlayers := 1)
--   (maxPrediction := 8) (disconnectTimeoutMs := 2000) (disconnectNotifyStartMs := 500) (fps := 60)
--   (desync := none) (magic := 7) (now := 0); the stream is ⟨f0 := 0, items, width := 1⟩.
example : RInv (Endpoint.new [0] 1 2 1 8 2000 500 60 none 7 0) ⟨0, [[5], [6]], 1⟩ :=
  RInv_new [0] 1 2 1 8 2000 500 60 none 7 0 ⟨0, [[5], [6]], 1⟩ rfl (by decide) (by decide)

end Ggrs

namespace Ggrs.Endpoint

/-- While synchronizing, a request is outstanding: there is a nonce whose reply would count. -/
def HsLive (e : Endpoint) (r : Nat) : Prop :=
  e.state = .synchronizing ∧ e.syncRemaining = r ∧ e.remoteMagic = 0 ∧ e.syncRandomRequests ≠ []

theorem addNonce_mem (l : List Nat) (x : Nat) : x ∈ (if l.contains x then l else l ++ [x]) ∧ (if l.contains x then l else l ++ [x]) ≠ [] := by
  by_cases hc : l.contains x = true
  · simp only [hc, if_true]
    have : x ∈ l := by simpa using hc
    exact ⟨this, fun h0 => by rw [h0] at this; cases this⟩
  · simp only [hc, Bool.false_eq_true, if_false]
    exact ⟨by simp, by simp⟩

theorem sendSyncRequest_live (e : Endpoint) (now : Nat) :
    (e.sendSyncRequest now).state = e.state ∧ (e.sendSyncRequest now).syncRemaining = e.syncRemaining ∧
    (e.sendSyncRequest now).remoteMagic = e.remoteMagic ∧ (e.sendSyncRequest now).magic = e.magic ∧
    (e.sendSyncRequest now).syncRandomRequests ≠ [] ∧
    ∃ x, x ∈ (e.sendSyncRequest now).syncRandomRequests ∧
      (e.sendSyncRequest now).sendQueue = e.sendQueue ++ [⟨e.magic, .syncRequest x⟩] := by
  unfold sendSyncRequest takeNonce queueMessage
  cases hn : e.nonceTape with
  | nil => exact ⟨rfl, rfl, rfl, rfl, (addNonce_mem _ 0).2, 0, (addNonce_mem _ 0).1, rfl⟩
  | cons x rest => exact ⟨rfl, rfl, rfl, rfl, (addNonce_mem _ x).2, x, (addNonce_mem _ x).1, rfl⟩

theorem onSyncReply_round (e1 : Endpoint) (now magic x r : Nat) (hst : e1.state = .synchronizing)
    (hrem : e1.syncRemaining = r + 1) (hmag : e1.remoteMagic = 0) (hx : x ∈ e1.syncRandomRequests) :
    (r = 0 ∧ (e1.onSyncReply now magic x).state = .running ∧ (e1.onSyncReply now magic x).remoteMagic = magic) ∨
    (r > 0 ∧ HsLive (e1.onSyncReply now magic x) r ∧ ∃ y, y ∈ (e1.onSyncReply now magic x).syncRandomRequests ∧
      (⟨(e1.onSyncReply now magic x).magic, .syncRequest y⟩ : Msg) ∈ (e1.onSyncReply now magic x).sendQueue) := by
  unfold onSyncReply
  have c1 : (e1.state != .synchronizing) = false := by rw [hst]; rfl
  have c2 : (!e1.syncRandomRequests.contains x) = false := by simp [hx]
  simp only [c1, c2, Bool.false_eq_true, if_false, hrem, Nat.add_sub_cancel]
  by_cases hr : r > 0
  · rw [if_pos hr]
    right
    obtain ⟨a, b, c, m, d, y, hy, hq⟩ := sendSyncRequest_live
      ({ e1 with syncRandomRequests := e1.syncRandomRequests.filter (· != x), syncRemaining := r,
                 eventQueue := e1.eventQueue ++ [ProtoEvent.synchronizing NUM_SYNC_PACKETS (NUM_SYNC_PACKETS - r)] }) now
    refine ⟨hr, ⟨a.trans hst, b, c.trans hmag, d⟩, y, hy, ?_⟩
    rw [hq, m]
    simp
  · have hr0 : r = 0 := by omega
    rw [if_neg hr]
    left
    exact ⟨hr0, rfl, rfl⟩

/-- **C05, one handshake round trip.** An endpoint that is synchronizing with `r + 1` round trips to
go handles the reply to ANY request it has outstanding — however many of its requests and of the
peer's replies were lost before, and whatever else arrived in between: with `r = 0` it is Running
afterwards; with `r > 0` it is still synchronizing with `r` to go, has sent the next request, and
again has a request outstanding. -/
theorem C05_handshake_round (e : Endpoint) (now : Nat) (magic x : Nat) (r : Nat) (h : HsLive e (r + 1))
    (hx : x ∈ e.syncRandomRequests) :
    ∃ e', e.handleMessage now ⟨magic, .syncReply x⟩ = .ok e' ∧
      ((r = 0 ∧ e'.state = .running ∧ e'.remoteMagic = magic) ∨
       (r > 0 ∧ HsLive e' r ∧ ∃ y, y ∈ e'.syncRandomRequests ∧ (⟨e'.magic, .syncRequest y⟩ : Msg) ∈ e'.sendQueue)) := by
  obtain ⟨hst, hrem, hmag, _⟩ := h
  unfold handleMessage
  have h1 : (e.state == .shutdown) = false := by rw [hst]; rfl
  have h2 : (e.remoteMagic != 0 && magic != e.remoteMagic) = false := by simp [hmag]
  simp only [h1, h2, Bool.false_eq_true, if_false]
  obtain ⟨n1, n2, n3, n4⟩ := noteReceived_hs e now
  exact ⟨_, rfl, onSyncReply_round (e.noteReceived now) now magic x r (n1.trans hst) (n2.trans hrem) (n4.trans hmag)
    (by rw [n3]; exact hx)⟩

/-- The retry timer: a synchronizing endpoint polled more than `SYNC_RETRY_INTERVAL` after its last
request sends another one, which is then outstanding (so a lost request or reply is always
followed by a new chance). -/
theorem C05_handshake_retry (e : Endpoint) (now : Nat) (cs : List ConnStatus) (r : Nat) (h : HsLive e r)
    (ht : e.lastSyncRequestTime + ms SYNC_RETRY_INTERVAL < now) :
    ∃ e', e.pollState now cs = .ok e' ∧ HsLive e' r ∧
      ∃ y, y ∈ e'.syncRandomRequests ∧ e'.sendQueue = e.sendQueue ++ [⟨e.magic, .syncRequest y⟩] := by
  obtain ⟨hst, hrem, hmag, _⟩ := h
  unfold pollState
  simp only [hst, ht, if_true]
  obtain ⟨a, b, c, _, d, y, hy, hq⟩ := sendSyncRequest_live e now
  exact ⟨_, rfl, ⟨a.trans hst, b.trans hrem, c.trans hmag, d⟩, y, hy, hq⟩

theorem C05_handshake_start (e0 e1 : Endpoint) (now : Nat) (hm : e0.remoteMagic = 0)
    (h : e0.synchronize now = .ok e1) : HsLive e1 NUM_SYNC_PACKETS := by
  unfold synchronize at h
  obtain ⟨_, h⟩ := ensure_bind_ok h
  cases pure_ok h
  obtain ⟨a, b, c, _, d, _⟩ := sendSyncRequest_live
    ({ e0 with state := .synchronizing, syncRemaining := NUM_SYNC_PACKETS, statsStartTime := now / 1000 }) now
  exact ⟨a, b, c.trans hm, d⟩

/-- `k` clean round trips: each time, the reply to some outstanding request is handled. -/
inductive HsRounds : Endpoint → Nat → Endpoint → Prop
  | zero (e : Endpoint) : HsRounds e 0 e
  | succ (e e1 e2 : Endpoint) (k now magic x : Nat) : x ∈ e.syncRandomRequests →
      e.handleMessage now ⟨magic, .syncReply x⟩ = .ok e1 → HsRounds e1 k e2 → HsRounds e (k + 1) e2

/-- **C05, the handshake completes.** From ANY synchronizing state with `r` round trips to go and a
request outstanding — whatever was lost, duplicated or delayed before — `r` clean round trips make
the endpoint Running; and a next clean round trip is always possible on the way: after each one a
fresh request has been sent and is outstanding (`C05_handshake_round`), and the retry timer sends
more (`C05_handshake_retry`). -/
theorem C05_handshake_completes : ∀ (r : Nat) (e e' : Endpoint), HsLive e r → HsRounds e r e' → r > 0 →
    e'.state = .running := by
  intro r
  induction r with
  | zero => intro e e' _ _ h; omega
  | succ k ih =>
    intro e e' hl hr _
    cases hr with
    | succ _ e1 _ _ now magic x hx hm hrest =>
      obtain ⟨e1', he1, hcase⟩ := C05_handshake_round e now magic x k hl hx
      rw [hm] at he1
      cases he1
      rcases hcase with ⟨hk, hrun, _⟩ | ⟨hk, hl1, _⟩
      · subst hk
        cases hrest
        exact hrun
      · exact ih e1 e' hl1 hrest hk

end Ggrs.Endpoint
