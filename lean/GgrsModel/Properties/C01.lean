/-
C01 — Every peer's confirmed timeline equals the serial replay of the true inputs.

How the pieces fit: the rollback target is the earliest mispredicted frame over all players
(`C01_earliest_incorrect`), and for every history of one queue no wrong prediction handed out since
the last rollback goes unnoticed (`C01_detect`), so rolling back there re-simulates every frame that
used a wrong value. Through Properties/C11.lean the ring of every queue holds the player's true
stream, through Properties/C03.lean a `Confirmed` input is read from the slot of the requested frame.
Session level, over EVERY interleaving of local input submissions, remote-input arrivals,
`advance_frame` calls and cell writes by the game, any number of players, any prediction window,
sparse saving or not: `C01_timeline_partial`, `C01_state_replay_partial` (rollback mode),
`C01_lockstep_replay`; `C01_timeline_delay`, `C01_state_replay_delay` add `set_input_delay` calls.
The timeline is the inputs of the game's LAST simulation of each frame, obtained by executing the
request lists.
`_partial`: proved for sessions in which no player is (yet) marked disconnected — the disconnect
paths (C07, C10) are not covered — and the streams are the inputs as they ARRIVE at this peer.
Across peers: `C01_agree_two_peers`, `C01_states_agree_two_peers`, `C01_agree_three_peers` are about
products of sessions in which a link is replaced by what `C11_owner_sends_queue` and
`C05_stream_intact` prove about it: what arrives is the next frame of a player of another peer,
carrying what the owner's queue holds for it. `C01_agree_given_links`: the same conclusion from the
prefix relation as a hypothesis.
NOT proved: the product that contains the endpoints and the packets themselves, four sessions,
products with dropped players (DESIGN.md §12.4); on that level the property is decided by the
monitor on implementation traces plus trace acceptance of the model.
-/
import GgrsModel.Model.Inventory
import GgrsModel.Model.Sites.P2pSession
import GgrsModel.Model.Sites.SyncLayer
import GgrsModel.Model.Sites.InputQueue
import GgrsModel.Model.Sites.Protocol
import GgrsModel.Properties.C11
import GgrsModel.Properties.C03
import GgrsModel.Properties.C04
import GgrsModel.Proofs.Earliest
import GgrsModel.Proofs.Session
import GgrsModel.Proofs.World
import GgrsModel.Proofs.DelayStep
import GgrsModel.Proofs.Demo
import GgrsModel.Proofs.Pair
import GgrsModel.Proofs.Triple

namespace Ggrs.SyncLayer

/-- **C01, earliest wrong frame.** The frame handed to the rollback is NULL only if no queue has
detected a misprediction (and no disconnect rollback is pending); otherwise it is at or below the
first mispredicted frame of EVERY player (and the pending disconnect frame). -/
theorem C01_earliest_incorrect (s : SyncLayer) (disconnectFrame : Frame) :
    (s.checkSimulationConsistency disconnectFrame = NULL_FRAME ↔
      disconnectFrame = NULL_FRAME ∧ ∀ q ∈ s.queues, q.firstIncorrectFrame = NULL_FRAME) ∧
    (s.checkSimulationConsistency disconnectFrame ≠ NULL_FRAME →
      ∀ q ∈ s.queues, q.firstIncorrectFrame ≠ NULL_FRAME →
        s.checkSimulationConsistency disconnectFrame ≤ q.firstIncorrectFrame) := by
  have := earliest_spec s.queues disconnectFrame
  exact ⟨this.1, fun h => (this.2 h).2⟩

end Ggrs.SyncLayer

namespace Ggrs
open InputQueue

/-- **C01, misprediction detection (queue level, all histories).** `st.H` is the list of
(frame, value) pairs `input` has answered with status Predicted since the last
`reset_prediction`. In every reachable state: if `first_incorrect_frame` is NULL, every one of
them whose frame has arrived by now was right; otherwise `first_incorrect_frame` is a received
frame whose real value differs from the prediction, and every predicted answer for an earlier
frame was right. -/
theorem C01_detect (pr : Predictor) (st : QState) (hr : QStar pr ⟨InputQueue.new, {}, []⟩ st) :
    (st.q.firstIncorrectFrame = NULL_FRAME →
      ∀ p ∈ st.H, p.1 < st.s.vals.length → st.s.vals.getD p.1.toNat 0 = p.2) ∧
    (st.q.firstIncorrectFrame ≠ NULL_FRAME →
      ∃ g : Nat, st.q.firstIncorrectFrame = (g : Int) ∧ g < st.s.vals.length ∧
        st.s.vals.getD g 0 ≠ st.q.prediction.input ∧
        ∀ p ∈ st.H, p.1 < (g : Int) → st.s.vals.getD p.1.toNat 0 = p.2) :=
  PInv_detect pr st.q st.s st.H (PInv_run pr _ st (PInv_new pr) hr)

end Ggrs

namespace Ggrs
open InputQueue

/-- **C01, the timeline (partial: no disconnected players).** From any state satisfying the session
invariant (a freshly built session does: `SessInv_init`) run ANY sequence of `SStep`s. Then for one
more `advance_frame` call there are requests `reqs1` (the rollback-and-save phase, a prefix of what
the call returns) such that, once the game has executed them, for every player `p` and every frame
`f` below the current frame whose input has arrived, the game's last simulation of `f` used exactly
that input; and the call returns either just `reqs1` (prediction window exhausted) or `reqs1` plus
one AdvanceFrame whose inputs are, per player, the real input of the new frame with status Confirmed
if it has arrived, and otherwise — only then — the predictor applied to the newest input that has,
with status Predicted. -/
theorem C01_timeline_partial (x y : P2P × TLState) (h0 : ∃ gh, SessInv x.1 gh x.2 []) (hrun : SStar x y)
    (now : Nat) (s' : P2P) (reqs' : List Request) (hadv : y.1.advanceRollbackFrame now [] = .ok (s', reqs')) :
    ∃ (gh gh1 gh2 : Ghost) (s1 : P2P) (reqs1 : List Request),
      SessInv y.1 gh y.2 [] ∧ gh1.specs = gh.specs ∧ s1.sync.currentFrame = y.1.sync.currentFrame ∧
      s1.sync.queues.length = y.1.sync.queues.length ∧
      (∀ p, p < y.1.sync.queues.length → ∀ f : Nat, (f : Int) < y.1.sync.currentFrame →
        f < (gh.specs p).vals.length →
        ((((execReqs y.2 reqs1).R f).getD p default).1 = (gh.specs p).vals.getD f 0)) ∧
      (reqs' = reqs1 ∨ ∃ (c : Nat) (ins : List (Input × InputStatus)), y.1.sync.currentFrame = (c : Int) ∧
        reqs' = reqs1 ++ [.advance ins] ∧ InputsOk y.1.pred gh2 c ins) := by
  obtain ⟨gh, h⟩ := SessInv_run x y h0 hrun
  obtain ⟨gh1, gh2, s1, reqs1, hphase⟩ := rollbackPhase_timeline y.1 s' gh y.2 now reqs' h hadv
  exact ⟨gh, gh1, gh2, s1, reqs1, h, hphase⟩

end Ggrs

namespace Ggrs

theorem WInv.replay {G : Type} {step : G → List (Input × InputStatus) → G} {g0 : G} {s : P2P} {x : GS G}
    (h : WInv step g0 s x) : x.cur = s.sync.currentFrame ∧ x.g = replay step g0 x.R x.cur.toNat := by
  obtain ⟨c, hc, hg, _, _⟩ := h.chk
  exact ⟨hg.cur.trans hc, hg.state⟩

/-- **C01, game state = serial replay (partial: rollback mode, no disconnected players).** After
every run in which the game executes the requests of every call in order, the game is at the
session's frame and its state is the serial replay, from the initial state, of the rows of its
timeline — which `C01_timeline_partial` shows to be the real inputs wherever they have arrived. -/
theorem C01_state_replay_partial {G : Type} (step : G → List (Input × InputStatus) → G) (g0 : G)
    (a b : P2P × GS G) (h0 : WInv step g0 a.1 a.2) (hrun : WStar step a b) :
    b.2.cur = b.1.sync.currentFrame ∧ b.2.g = replay step g0 b.2.R b.2.cur.toNat :=
  (WInv_run step g0 a b h0 hrun).replay

end Ggrs

namespace Ggrs

/-- **C01 in lockstep mode: timeline and state (no disconnected players).** After every run with
lockstep `advance_frame` calls the game is at the session's frame, every row of its timeline is the
full row of every player's real input (all Confirmed), and its state is the serial replay of those
rows from the initial state. -/
theorem C01_lockstep_replay {G : Type} (step : G → List (Input × InputStatus) → G) (g0 : G)
    (a b : P2P × GS G) (h0 : LWInv step g0 a.1 a.2) (hrun : LWStar step a b) :
    ∃ gh, LkInv b.1 gh ⟨b.2.cur, b.2.R⟩ ∧ b.2.cur = b.1.sync.currentFrame ∧
      (∀ f : Nat, (f : Int) < b.2.cur → b.2.R f = rowOf gh b.1.sync.queues.length f) ∧
      b.2.g = replay step g0 b.2.R b.2.cur.toNat := by
  have h := LWInv_run step g0 a b h0 hrun
  obtain ⟨gh, hl⟩ := h.sess
  have hc : b.2.cur = b.1.sync.currentFrame := by
    have := hl.sess.tinv.exec; simp only [execReqs, List.foldl_nil] at this; exact this
  exact ⟨gh, hl, hc, fun f hf => hl.timeline f (by rw [← hc]; exact hf), h.state⟩

end Ggrs

namespace Ggrs

/-- `C01_timeline_partial` for runs that also contain `set_input_delay` calls of local players. -/
theorem C01_timeline_delay (x y : P2P × TLState) (h0 : HInv x) (hrun : DStar x y)
    (now : Nat) (s' : P2P) (reqs' : List Request) (hadv : y.1.advanceRollbackFrame now [] = .ok (s', reqs')) :
    ∃ (gh gh1 gh2 : Ghost) (s1 : P2P) (reqs1 : List Request),
      SessInv y.1 gh y.2 [] ∧ gh1.specs = gh.specs ∧ s1.sync.currentFrame = y.1.sync.currentFrame ∧
      s1.sync.queues.length = y.1.sync.queues.length ∧
      (∀ p, p < y.1.sync.queues.length → ∀ f : Nat, (f : Int) < y.1.sync.currentFrame →
        f < (gh.specs p).vals.length →
        ((((execReqs y.2 reqs1).R f).getD p default).1 = (gh.specs p).vals.getD f 0)) ∧
      (reqs' = reqs1 ∨ ∃ (c : Nat) (ins : List (Input × InputStatus)), y.1.sync.currentFrame = (c : Int) ∧
        reqs' = reqs1 ++ [.advance ins] ∧ InputsOk y.1.pred gh2 c ins) := by
  obtain ⟨⟨gh, h, _⟩, _⟩ := HInv_run x y h0 hrun
  obtain ⟨gh1, gh2, s1, reqs1, hphase⟩ := rollbackPhase_timeline y.1 s' gh y.2 now reqs' h hadv
  exact ⟨gh, gh1, gh2, s1, reqs1, h, hphase⟩

/-- `C01_state_replay_partial` for runs that also contain `set_input_delay` calls. -/
theorem C01_state_replay_delay {G : Type} (step : G → List (Input × InputStatus) → G) (g0 : G)
    (a b : P2P × GS G) (h0 : DWInv step g0 a) (hrun : DWStar step a b) :
    b.2.cur = b.1.sync.currentFrame ∧ b.2.g = replay step g0 b.2.R b.2.cur.toNat :=
  (DWInv_run step g0 a b h0 hrun).1.replay

end Ggrs

namespace Ggrs

/-- **C01 across two peers, given what the links deliver.** Two sessions A and B, each in any state
its own all-schedules theorem reaches (`SessInv`). HYPOTHESIS `hlinks`: for every player the two
sessions' streams — what each has received or, for its own players, submitted — are prefixes of one
common stream (what `C11_owner_sends_queue` and `C05_stream_intact` provide per link). Then after the
rollback phase of the next call on either side, the two games' last simulations of every frame `f`
that both have simulated agree on the input of every player whose input for `f` both hold.
`C01_agree_two_peers` derives the prefix hypothesis instead of assuming it. -/
theorem C01_agree_given_links (sA sB sA' sB' : P2P) (ghA ghB : Ghost) (tA tB : TLState) (nowA nowB : Nat)
    (reqsA reqsB : List Request)
    (hA : SessInv sA ghA tA []) (hB : SessInv sB ghB tB [])
    (hlinks : ∀ p, ∃ S : List Input, (ghA.specs p).vals <+: S ∧ (ghB.specs p).vals <+: S)
    (hcA : sA.advanceRollbackFrame nowA [] = .ok (sA', reqsA))
    (hcB : sB.advanceRollbackFrame nowB [] = .ok (sB', reqsB)) :
    ∃ (r1A r1B : List Request),
      (reqsA = r1A ∨ ∃ ins, reqsA = r1A ++ [.advance ins]) ∧ (reqsB = r1B ∨ ∃ ins, reqsB = r1B ++ [.advance ins]) ∧
      ∀ p, p < sA.sync.queues.length → p < sB.sync.queues.length → ∀ f : Nat,
        (f : Int) < sA.sync.currentFrame → (f : Int) < sB.sync.currentFrame →
        f < (ghA.specs p).vals.length → f < (ghB.specs p).vals.length →
        (((execReqs tA r1A).R f).getD p default).1 = (((execReqs tB r1B).R f).getD p default).1 := by
  obtain ⟨r1A, r1B, ha, hb, h⟩ := agree_of_common sA sB sA' sB' ghA ghB tA tB nowA nowB reqsA reqsB hA hB (fun _ => True)
    (fun p _ f hlA hlB => by
      obtain ⟨S, h1, h2⟩ := hlinks p
      rw [getD_of_prefix _ S h1 f hlA, getD_of_prefix _ S h2 f hlB]) hcA hcB
  refine ⟨r1A, r1B, ha, hb, fun p hpA hpB f hfA hfB hlA hlB => h p trivial hpA hpB f hfA hfB ?_ ?_⟩
  · rw [lastAdded_of_QI (hA.tinv.sync.all p hpA)]; omega
  · rw [lastAdded_of_QI (hB.tinv.sync.all p hpB)]; omega

end Ggrs

namespace Ggrs

/-- **Non-vacuity of the session world.** `SStar` contains the runs the theorems are meant for: a
freshly built two-player session (it satisfies the invariant), a local input before every call, the
game writing its saves after every call, a remote input arriving that contradicts the prediction,
three calls that each advance the frame, the second of them rolling back (`LoadGameState` in its
request list). -/
theorem C01_world_nonvacuous :
    (∃ gh, SessInv demoSession gh ⟨0, fun _ => []⟩ []) ∧
    (∃ t', SStar (demoSession, ⟨0, fun _ => []⟩) (demoS3, t')) ∧ demoS3.sync.currentFrame = 3 ∧
    (getOk (demoTick demoS1r 6)).2.any (fun r => match r with | .load _ => true | _ => false) = true := by
  obtain ⟨_, _, _, hload, _, _, hframe⟩ := demo_facts
  exact ⟨⟨_, SessInv_init demoSession (fun _ => []) 2 rfl rfl rfl⟩, demo_run _, hframe, hload⟩

end Ggrs

namespace Ggrs

/-- **C01 across two peers (the product, no disconnected players).** Two rollback-mode sessions A and B
side by side, from any pair satisfying the pair invariant (two freshly built sessions do:
`PPInv_init`). Run ANY interleaving of: either user submitting local inputs or calling
`set_input_delay`, either game writing cells, either session's `advance_frame` (its game executing
the requests), and arrivals — the next frame of a player the other session owns, carrying what the
owner's queue holds for it (`Half.arrive`). Then, after the rollback phase of the next call on either
side, the two games' last simulations of every frame `f` both have simulated carry the SAME input
for every player owned by one of the two sessions, provided both sessions' queues hold that player's
frame `f`. No assumption about the streams: that the receiver's stream is a prefix of the owner's is
an invariant of the product (`PPInv_run`). Inputs of players that neither session owns arrive as they
please (`Half.arriveOther`: any frame, any value), so the theorem applies to ANY two sessions of a
session with three or four peers, for the players those two own. -/
theorem C01_agree_two_peers (x y : (P2P × TLState) × (P2P × TLState)) (h0 : PPInv x) (hrun : PStar x y)
    (nowA nowB : Nat) (sA' sB' : P2P) (reqsA reqsB : List Request)
    (hcA : y.1.1.advanceRollbackFrame nowA [] = .ok (sA', reqsA))
    (hcB : y.2.1.advanceRollbackFrame nowB [] = .ok (sB', reqsB)) :
    ∃ (r1A r1B : List Request),
      (reqsA = r1A ∨ ∃ ins, reqsA = r1A ++ [.advance ins]) ∧ (reqsB = r1B ∨ ∃ ins, reqsB = r1B ++ [.advance ins]) ∧
      ∀ p, ((p ∈ y.1.1.localPlayerHandles ∧ p ∉ y.2.1.localPlayerHandles) ∨
            (p ∈ y.2.1.localPlayerHandles ∧ p ∉ y.1.1.localPlayerHandles)) →
        p < y.1.1.sync.queues.length → p < y.2.1.sync.queues.length → ∀ f : Nat,
        (f : Int) < y.1.1.sync.currentFrame → (f : Int) < y.2.1.sync.currentFrame →
        (f : Int) ≤ (rget y.1.1.sync.queues p).lastAddedFrame → (f : Int) ≤ (rget y.2.1.sync.queues p).lastAddedFrame →
        (((execReqs y.1.2 r1A).R f).getD p default).1 = (((execReqs y.2.2 r1B).R f).getD p default).1 :=
  pair_agree x y h0 hrun nowA nowB sA' sB' reqsA reqsB hcA hcB

/-- Whatever B holds of a player of A is, entry by entry, what A's own queue specification holds. -/
theorem C01_pair_prefix (x y : (P2P × TLState) × (P2P × TLState)) (h0 : PPInv x) (hrun : PStar x y) :
    ∃ ghA ghB, SessInv y.1.1 ghA y.1.2 [] ∧ SessInv y.2.1 ghB y.2.2 [] ∧
      LinkRel y.1.1 y.2.1 ghA ghB ∧ LinkRel y.2.1 y.1.1 ghB ghA := by
  obtain ⟨ghA, ghB, h⟩ := PPInv_run x y h0 hrun
  exact ⟨ghA, ghB, h.sa, h.sb, h.ab, h.ba⟩

end Ggrs

namespace Ggrs

/-- **Non-vacuity of the pair world.** Two freshly built sessions satisfy the pair invariant, and
the world contains the run it is meant for: both users submit inputs, both sessions simulate frame 0
predicting the other's input, each then receives the other's frame 0 — read off the owner's queue,
and different from the prediction —, and both roll back on their next call and reach frame 2. -/
theorem C01_pair_nonvacuous :
    PPInv ((demoSession, ⟨0, fun _ => []⟩), (demoPeer, ⟨0, fun _ => []⟩)) ∧
    (∃ tA' tB', PStar ((demoSession, ⟨0, fun _ => []⟩), (demoPeer, ⟨0, fun _ => []⟩)) ((demoS2, tA'), (demoB2, tB'))) ∧
    demoS2.sync.currentFrame = 2 ∧ demoB2.sync.currentFrame = 2 :=
  ⟨PPInv_init demoSession demoPeer _ _ 2 rfl rfl rfl rfl rfl rfl rfl rfl, demo_pair_run _ _, demo_facts.2.2.2.2.1,
    demo_peer_facts.2.2.2⟩

end Ggrs

namespace Ggrs

theorem replay_congr_vals {G : Type} (step : G → List (Input × InputStatus) → G) (g0 : G) (n : Nat)
    (hstep : ∀ g r r', (∀ p, p < n → (r.getD p default).1 = (r'.getD p default).1) → step g r = step g r')
    (R R' : Nat → List (Input × InputStatus)) :
    ∀ F : Nat, (∀ f, f < F → ∀ p, p < n → ((R f).getD p default).1 = ((R' f).getD p default).1) →
      replay step g0 R F = replay step g0 R' F := by
  intro F
  induction F with
  | zero => intro _; rfl
  | succ k ih =>
    intro h
    simp only [replay]
    rw [ih (fun f hf => h f (by omega))]
    exact hstep _ _ _ (h k (by omega))

/-- **C01 across two peers: game states.** In the setting of `C01_agree_two_peers`, let every one of
the `n` players be owned by exactly one of the two sessions and let both sessions have simulated, and
hold every player's real input for, every frame below `F`. Then the serial replays of the two games'
timelines up to `F` — by `C01_state_replay_partial` the two games' states at frame `F` — are the
same, for every game whose step reads only the input values (not the Confirmed/Predicted label). -/
theorem C01_states_agree_two_peers {G : Type} (step : G → List (Input × InputStatus) → G) (g0 : G)
    (x y : (P2P × TLState) × (P2P × TLState)) (h0 : PPInv x) (hrun : PStar x y)
    (nowA nowB : Nat) (sA' sB' : P2P) (reqsA reqsB : List Request)
    (hcA : y.1.1.advanceRollbackFrame nowA [] = .ok (sA', reqsA))
    (hcB : y.2.1.advanceRollbackFrame nowB [] = .ok (sB', reqsB))
    (n : Nat) (hnA : y.1.1.sync.queues.length = n) (hnB : y.2.1.sync.queues.length = n)
    (hown : ∀ p, p < n → (p ∈ y.1.1.localPlayerHandles ∧ p ∉ y.2.1.localPlayerHandles) ∨
      (p ∈ y.2.1.localPlayerHandles ∧ p ∉ y.1.1.localPlayerHandles))
    (hstep : ∀ g r r', (∀ p, p < n → (r.getD p default).1 = (r'.getD p default).1) → step g r = step g r')
    (F : Nat) (hFA : (F : Int) ≤ y.1.1.sync.currentFrame) (hFB : (F : Int) ≤ y.2.1.sync.currentFrame)
    (hheldA : ∀ p, p < n → (F : Int) - 1 ≤ (rget y.1.1.sync.queues p).lastAddedFrame)
    (hheldB : ∀ p, p < n → (F : Int) - 1 ≤ (rget y.2.1.sync.queues p).lastAddedFrame) :
    ∃ (r1A r1B : List Request),
      (reqsA = r1A ∨ ∃ ins, reqsA = r1A ++ [.advance ins]) ∧ (reqsB = r1B ∨ ∃ ins, reqsB = r1B ++ [.advance ins]) ∧
      replay step g0 (execReqs y.1.2 r1A).R F = replay step g0 (execReqs y.2.2 r1B).R F := by
  obtain ⟨r1A, r1B, ha, hb, hag⟩ := C01_agree_two_peers x y h0 hrun nowA nowB sA' sB' reqsA reqsB hcA hcB
  refine ⟨r1A, r1B, ha, hb, replay_congr_vals step g0 n hstep _ _ F ?_⟩
  intro f hf p hp
  exact hag p (hown p hp) (by rw [hnA]; exact hp) (by rw [hnB]; exact hp) f (by omega) (by omega)
    (by have := hheldA p hp; omega) (by have := hheldB p hp; omega)

end Ggrs

namespace Ggrs

/-- **C01 across three peers.** Three rollback-mode sessions side by side (`Proofs/Triple.lean`), each
moving as in the pair, arrivals being the next frame of a player one of the other two owns, read off
that owner's queue. For every run, sessions `a` and `b` — any two, the construction is symmetric —
agree after the rollback phase of their next calls on the input of EVERY player owned by exactly one
of the three sessions, for every frame both have simulated and both hold: their own players' (the
pair argument) and the third peer's, whose two copies are both prefixes of the owner's stream. The
four-peer case (one more pair invariant per session) is not written out. -/
theorem C01_agree_three_peers (x y : Tri) (h0 : TriInv x) (hrun : TStar x y) (nowA nowB : Nat) (sA' sB' : P2P)
    (reqsA reqsB : List Request)
    (hcA : y.a.1.advanceRollbackFrame nowA [] = .ok (sA', reqsA))
    (hcB : y.b.1.advanceRollbackFrame nowB [] = .ok (sB', reqsB)) :
    ∃ (r1A r1B : List Request),
      (reqsA = r1A ∨ ∃ ins, reqsA = r1A ++ [.advance ins]) ∧ (reqsB = r1B ∨ ∃ ins, reqsB = r1B ++ [.advance ins]) ∧
      ∀ p, OwnedByOne y p → p < y.a.1.sync.queues.length → p < y.b.1.sync.queues.length → ∀ f : Nat,
        (f : Int) < y.a.1.sync.currentFrame → (f : Int) < y.b.1.sync.currentFrame →
        (f : Int) ≤ (rget y.a.1.sync.queues p).lastAddedFrame → (f : Int) ≤ (rget y.b.1.sync.queues p).lastAddedFrame →
        (((execReqs y.a.2 r1A).R f).getD p default).1 = (((execReqs y.b.2 r1B).R f).getD p default).1 :=
  triple_agree x y h0 hrun nowA nowB sA' sB' reqsA reqsB hcA hcB

theorem C01_three_peers_init (a b c : P2P) (RA RB RC : Nat → List (Input × InputStatus)) (n : Nat)
    (hqa : a.sync.queues = List.replicate n InputQueue.new) (hsta : a.localConnectStatus = List.replicate n {})
    (hca : a.sync.currentFrame = 0) (hoa : a.outgoingLocalInputs = [])
    (hqb : b.sync.queues = List.replicate n InputQueue.new) (hstb : b.localConnectStatus = List.replicate n {})
    (hcb : b.sync.currentFrame = 0) (hob : b.outgoingLocalInputs = [])
    (hqc : c.sync.queues = List.replicate n InputQueue.new) (hstc : c.localConnectStatus = List.replicate n {})
    (hcc : c.sync.currentFrame = 0) (hoc : c.outgoingLocalInputs = []) :
    TriInv ⟨(a, ⟨0, RA⟩), (b, ⟨0, RB⟩), (c, ⟨0, RC⟩)⟩ := by
  obtain ⟨ghA, sa, ga, ea⟩ := fresh_session a RA n hqa hsta hca hoa
  obtain ⟨ghB, sb, gb, eb⟩ := fresh_session b RB n hqb hstb hcb hob
  obtain ⟨ghC, sc, gc, ec⟩ := fresh_session c RC n hqc hstc hcc hoc
  exact ⟨ghA, ghB, ghC, .of_empty sa ga sb gb ea eb, .of_empty sa ga sc gc ea ec, .of_empty sb gb sc gc eb ec⟩

end Ggrs

namespace Ggrs

/-- **Non-vacuity of the triple world.** Three freshly built sessions (one player each) satisfy the
invariant, and the world contains runs with arrivals at both other peers: A simulates frame 0, and
its frame 0 — read off A's queue — arrives at B and at C. -/
theorem C01_triple_nonvacuous :
    TriInv ⟨(tri 0, ⟨0, fun _ => []⟩), (tri 1, ⟨0, fun _ => []⟩), (tri 2, ⟨0, fun _ => []⟩)⟩ ∧
    ∃ tA', TStar ⟨(tri 0, ⟨0, fun _ => []⟩), (tri 1, ⟨0, fun _ => []⟩), (tri 2, ⟨0, fun _ => []⟩)⟩
      ⟨(triA1, tA'), (triB1, ⟨0, fun _ => []⟩), (triC1, ⟨0, fun _ => []⟩)⟩ :=
  ⟨C01_three_peers_init (tri 0) (tri 1) (tri 2) _ _ _ 3 rfl rfl rfl rfl rfl rfl rfl rfl rfl rfl rfl rfl, demo_triple_run _ _ _⟩

end Ggrs

