/-
C11 — Changing input delay at run time keeps all peers in agreement; and the ring refinement that
C01 and C03 rest on.

Queue level (`C11_queue`, `C11_queue_add`, `C11_queue_set_delay`, `C11_queue_discard`,
`C11_ring_value`). `QSpec` (Proofs/Queue.lean) is the specification of a player's input stream as an
unbounded list: sequential submissions, shifted by the delay; an increase repeats the last value
over the frames it opens up in front of the next submission; after a decrease later submissions are
dropped until the stream has caught up; frames before the first input carry the default input. The
128-slot ring of `InputQueue` implements exactly that stream for EVERY interleaving of `add_input`,
`set_frame_delay` and `discard_confirmed_frames`, with no bound on the number of operations (the
ring wraps arbitrarily often); `add_input` reports the frame the specification assigns, and the fill
inputs `set_frame_delay` reports — the ones the session forwards to remote peers — are exactly the
entries the queue itself stores.

Session level. `C11_owner_sends_queue` (on `GlueInv_run`, `rollbackTick_glue`, Proofs/Glue.lean):
whatever `register_local_inputs` hands to the remote endpoints is the owners' own queue content,
frame after frame; `C11_delay_changes`: with `set_input_delay` calls anywhere in the run;
`C11_owner_sends_queue_drops`, `C11_delay_changes_drops`: with dropped players.
`C11_agree_two_peers`, `C11_agree_three_peers`: the products of two resp. three sessions
(Proofs/Pair.lean, Triple.lean), which have `set_input_delay` calls as steps.
-/
import GgrsModel.Model.Inventory
import GgrsModel.Model.Sites.InputQueue
import GgrsModel.Model.Sites.SyncLayer
import GgrsModel.Model.Sites.P2pSession
import GgrsModel.Proofs.Pair
import GgrsModel.Proofs.Triple
import GgrsModel.Proofs.Queue
import GgrsModel.Proofs.DelayStep
import GgrsModel.Proofs.GlueDrop
import GgrsModel.Proofs.DelayDrop

namespace Ggrs

inductive QOp where
  | add (userFrame : Int) (v : Input)
  | setDelay (d : Nat)
  | discard (frame : Frame)

theorem noPrediction_addKeeps : AddKeeps fun q _ => q.prediction.frame = NULL_FRAME :=
  fun q q' _ inp n h hadd _ => ((InputQueue.addByFrame_fields q q' inp n hadd).2.2.2.2.2.2.1 h).1

/-- `add_input` refines `QSpec.submit`. -/
theorem C11_queue_add (q q' : InputQueue) (s : QSpec) (uf : Int) (v : Input) (fr : Frame)
    (h : Refines q s) (hadd : q.addInput ⟨uf, v⟩ = .ok (q', fr)) :
    Refines q' (s.submit uf v).1 ∧ fr = (s.submit uf v).2 :=
  have ⟨hr, hfr, hp⟩ := noPrediction_addKeeps.addInput_spec (fun _ _ _ hp => hp) h.strip h.noPrediction hadd
  ⟨hr.of_strip hp, hfr⟩

/-- `set_frame_delay` refines `QSpec.setDelay`, including the fill inputs it reports. -/
theorem C11_queue_set_delay (q q' : InputQueue) (s : QSpec) (d : Nat) (fills : List PlayerInput)
    (h : Refines q s) (hset : q.setFrameDelay d = .ok (q', fills)) :
    Refines q' (s.setDelay d).1 ∧ fills = (s.setDelay d).2 :=
  have ⟨hr, hf, hp⟩ := noPrediction_addKeeps.setFrameDelay_spec (fun _ _ _ hp => hp) h.strip h.noPrediction hset
  ⟨hr.of_strip hp, hf⟩

/-- `discard_confirmed_frames` only moves the tail: the stream is untouched. -/
theorem C11_queue_discard (q q' : InputQueue) (s : QSpec) (f : Frame)
    (h : Refines q s) (hd : q.discardConfirmedFrames f = .ok q') : Refines q' s := by
  obtain ⟨_, _, hc⟩ := InputQueue.discardConfirmedFrames_ok hd
  rcases hc with ⟨_, rfl⟩ | ⟨_, _, rfl⟩ | ⟨_, _, _, rfl⟩
  · exact h.congr rfl
  · exact h
  · exact h.congr rfl

def specStep (s : QSpec) : QOp → QSpec
  | .add uf v => (s.submit uf v).1
  | .setDelay d => (s.setDelay d).1
  | .discard _ => s

def queueStep (q : InputQueue) : QOp → M InputQueue
  | .add uf v => do let (q', _) ← q.addInput ⟨uf, v⟩; pure q'
  | .setDelay d => do let (q', _) ← q.setFrameDelay d; pure q'
  | .discard f => q.discardConfirmedFrames f

/-- **C11, queue.** For every sequence of operations, of any length, that the queue executes
without hitting one of its assertions, the ring implements the specification stream. -/
theorem C11_queue : ∀ (ops : List QOp) (q q' : InputQueue) (s : QSpec),
    Refines q s → ops.foldlM queueStep q = .ok q' → Refines q' (ops.foldl specStep s) := by
  intro ops
  induction ops with
  | nil => intro q q' s h hr; simp [pure, Except.pure] at hr; subst hr; exact h
  | cons op rest ih =>
    intro q q' s h hr
    simp only [List.foldlM_cons, List.foldl_cons] at hr ⊢
    obtain ⟨q1, h1, hr⟩ := bind_ok hr
    apply ih q1 q' _ _ hr
    cases op with
    | add uf v =>
      simp only [queueStep, bind_eq_ok, pure_eq_ok, Prod.exists] at h1
      obtain ⟨q2, fr, hp, rfl⟩ := h1
      exact (C11_queue_add q q2 s uf v fr h hp).1
    | setDelay d =>
      simp only [queueStep, bind_eq_ok, pure_eq_ok, Prod.exists] at h1
      obtain ⟨q2, fills, hp, rfl⟩ := h1
      exact (C11_queue_set_delay q q2 s d fills h hp).1
    | discard f => exact C11_queue_discard q q1 s f h h1

/-- What the ring holds for a frame still inside its window is the specification's value: this is
what `confirmed_input` and the confirmed branch of `input` read. -/
theorem C11_ring_value (q : InputQueue) (s : QSpec) (h : Refines q s) (k : Nat)
    (hk : k < s.vals.length) (hw : s.vals.length ≤ k + INPUT_QUEUE_LENGTH) :
    q.confirmedInput (k : Int) = .ok ⟨(k : Int), s.vals.getD k 0⟩ :=
  (confirmedInput_eq_ok q k _).2 ⟨h.slots k hk hw, rfl⟩

/-! The empty queue refines the empty stream; raising the delay to 2 after one submission reports
the fills for frames 1 and 2, carrying the submitted value. -/
example : Refines InputQueue.new {} := refines_new
example : ((({} : QSpec).submit 0 7).1.setDelay 2).2 = [⟨1, 7⟩, ⟨2, 7⟩] := by decide

end Ggrs

namespace Ggrs

/-- **C11/C05, the owner's side (rollback mode, no disconnected players, configured delays).** After
any run of `SStep`s, one more call hands its remote endpoints (`Sends`: one `send_input` +
`send_all_messages` per endpoint and frame) only frames taken from the outgoing queue, each — once
something has been sent — the frame right after the last one sent and complete for every local
player, and each entry is exactly the input the named local player's own queue holds for that frame
(`gh2.specs`: the streams after this call's submissions, which extend the streams before it) — the
blank frames in front of a delayed first input included. -/
theorem C11_owner_sends_queue (x y : P2P × TLState) (h0 : ∃ gh, SessInv x.1 gh x.2 [] ∧ GlueInv x.1 gh)
    (hrun : SStar x y) (now : Nat) (s' : P2P) (reqs' : List Request)
    (hadv : y.1.advanceRollbackFrame now [] = .ok (s', reqs')) :
    ∃ (gh gh2 gh' : Ghost) (sA sB : P2P), SessInv y.1 gh y.2 [] ∧ SessInv s' gh' y.2 reqs' ∧ gh'.specs = gh2.specs ∧
      (∀ p, PrefixOf (gh.specs p).vals (gh2.specs p).vals) ∧
      sA.lastSentOutgoingInputFrame = y.1.lastSentOutgoingInputFrame ∧ Sends gh2 now sA sB ∧
      s'.lastSentOutgoingInputFrame = sB.lastSentOutgoingInputFrame := by
  obtain ⟨gh, hy, hgy⟩ := GlueInv_run x y h0 hrun
  obtain ⟨gh2, gh', sA, sB, hinv', _, hsp, hpre, hlA, hs, hlB⟩ := rollbackTick_glue y.1 s' gh y.2 [] reqs' now hy hgy hadv
  exact ⟨gh, gh2, gh', sA, sB, hy, hinv', hsp, hpre, hlA, hs, hlB⟩

end Ggrs

namespace Ggrs

/-- **C11, delay changes at run time, session level (rollback mode, no disconnected players).** From
a state with the session and glue invariants (a freshly built session has them: `SessInv_init`,
`GlueInv_init`) run ANY interleaving of `SStep`s AND `set_input_delay` calls for local players, with
any delays. Then the invariants still hold — every queue's ring implements the stream the
specification prescribes (`QSpec.setDelay`), a local player's status names the newest frame its
queue holds, the outgoing queue holds queue contents only (the fills of every increase included) —
and one more call hands its remote endpoints only consecutive, complete frames carrying exactly the
local players' queue inputs. Owner and remotes see the same stream, whatever the delay history. -/
theorem C11_delay_changes (x y : P2P × TLState) (h0 : HInv x) (hrun : DStar x y) (now : Nat) (s' : P2P)
    (reqs' : List Request) (hadv : y.1.advanceRollbackFrame now [] = .ok (s', reqs')) :
    ∃ (gh gh2 gh' : Ghost) (sA sB : P2P), SessInv y.1 gh y.2 [] ∧ GlueInv y.1 gh ∧ SessInv s' gh' y.2 reqs' ∧
      GlueInv s' gh' ∧ gh'.specs = gh2.specs ∧ (∀ p, PrefixOf (gh.specs p).vals (gh2.specs p).vals) ∧
      sA.lastSentOutgoingInputFrame = y.1.lastSentOutgoingInputFrame ∧ Sends gh2 now sA sB ∧
      s'.lastSentOutgoingInputFrame = sB.lastSentOutgoingInputFrame := by
  obtain ⟨⟨gh, hy, hgy⟩, _⟩ := HInv_run x y h0 hrun
  obtain ⟨gh2, gh', sA, sB, hinv', hg', hsp, hpre, hlA, hs, hlB⟩ := rollbackTick_glue y.1 s' gh y.2 [] reqs' now hy hgy hadv
  exact ⟨gh, gh2, gh', sA, sB, hy, hgy, hinv', hg', hsp, hpre, hlA, hs, hlB⟩

end Ggrs

namespace Ggrs

/-- The hypotheses of `C11_delay_changes` are met by a freshly built session. -/
example (s : P2P) (R : Nat → List (Input × InputStatus)) (n : Nat)
    (hq : s.sync.queues = List.replicate n InputQueue.new) (hst : s.localConnectStatus = List.replicate n {})
    (hc : s.sync.currentFrame = 0) (ho : s.outgoingLocalInputs = []) (hn : s.nextSpectatorFrame = 0) :
    HInv (s, ⟨0, R⟩) :=
  ⟨⟨_, SessInv_init s R n hq hst hc, GlueInv_init s _ n (fun _ => rfl) ho hst (by rw [hq]; simp)⟩,
   by show 0 ≤ s.nextSpectatorFrame; rw [hn]; exact Int.le_refl _⟩

end Ggrs

namespace Ggrs

/-- **C11/C05, the owner's side with dropped players (rollback mode, either saving mode).**
`C11_owner_sends_queue` for the world with drops (`XStep`): whoever has dropped, the stream the
remaining peers are sent is still the owner's queue, frame by frame. -/
theorem C11_owner_sends_queue_drops (x y : P2P × TLState) (h0 : XGInv x) (hrun : XStar x y)
    (now : Nat) (s' : P2P) (reqs' : List Request)
    (hadv : y.1.advanceRollbackFrame now [] = .ok (s', reqs')) :
    ∃ (gh gh2 gh' : DGhost) (st0 : List ConnStatus) (sA sB : P2P), SessInvD y.1 gh y.2 [] st0 ∧
      SessInvD s' gh' y.2 reqs' s'.localConnectStatus ∧ gh'.specs = gh2.specs ∧
      (∀ p, PrefixOf (gh.specs p).vals (gh2.specs p).vals) ∧
      sA.lastSentOutgoingInputFrame = y.1.lastSentOutgoingInputFrame ∧ Sends gh2.g now sA sB ∧
      s'.lastSentOutgoingInputFrame = sB.lastSentOutgoingInputFrame := by
  obtain ⟨gh, st0, hy, hgy⟩ := XGInv_run x y h0 hrun
  obtain ⟨gh2, gh', sA, sB, hinv', _, hsp, hpre, hlA, hs, hlB⟩ := rollbackTick_glueD y.1 s' gh y.2 [] reqs' now st0 hy hgy hadv
  exact ⟨gh, gh2, gh', st0, sA, sB, hy, hinv', hsp, hpre, hlA, hs, hlB⟩

/-- The premises are satisfiable: every state with the session and glue invariants of the world
without drops (`SessInv`, `GlueInv`) and no disconnect scheduled. -/
example (s : P2P) (gh : Ghost) (t : TLState) (h : SessInv s gh t []) (hg : GlueInv s gh)
    (hdf : s.disconnectFrame = NULL_FRAME) : XGInv (s, t) :=
  ⟨_, _, SessInvD_of_SessInv s gh t [] h hdf, hg⟩

end Ggrs

namespace Ggrs

/-- **C11, delay changes at run time — in the largest world.** From a state with the session
invariant with drops, the glue invariant and a non-negative spectator cursor (every state with
`HInv` and no disconnect scheduled qualifies, below) run ANY interleaving of the steps of `YStep`:
those of `XStep` and `set_input_delay` calls for local players with any delays. Then the invariants
still hold and one more call hands the remote endpoints only frames taken from the outgoing queue,
consecutive and complete for the local players, each entry the input the owner's queue holds for
that frame. -/
theorem C11_delay_changes_drops (x y : P2P × TLState) (h0 : YInv x) (hrun : YStar x y)
    (now : Nat) (s' : P2P) (reqs' : List Request)
    (hadv : y.1.advanceRollbackFrame now [] = .ok (s', reqs')) :
    ∃ (gh gh2 gh' : DGhost) (st0 : List ConnStatus) (sA sB : P2P), SessInvD y.1 gh y.2 [] st0 ∧ GlueInv y.1 gh.g ∧
      SessInvD s' gh' y.2 reqs' s'.localConnectStatus ∧ GlueInv s' gh'.g ∧ gh'.specs = gh2.specs ∧
      (∀ p, PrefixOf (gh.specs p).vals (gh2.specs p).vals) ∧
      sA.lastSentOutgoingInputFrame = y.1.lastSentOutgoingInputFrame ∧ Sends gh2.g now sA sB ∧
      s'.lastSentOutgoingInputFrame = sB.lastSentOutgoingInputFrame := by
  obtain ⟨⟨gh, st0, hy, hgy⟩, _⟩ := YInv_run x y h0 hrun
  obtain ⟨gh2, gh', sA, sB, hinv', hg', hsp, hpre, hlA, hs, hlB⟩ := rollbackTick_glueD y.1 s' gh y.2 [] reqs' now st0 hy hgy hadv
  exact ⟨gh, gh2, gh', st0, sA, sB, hy, hgy, hinv', hg', hsp, hpre, hlA, hs, hlB⟩

/-- Every state of the world with delay changes and no drops (`HInv`) with no disconnect scheduled
satisfies the premises; so every `DStar` run from it is covered (`YStar_of_DStar`). -/
example (x : P2P × TLState) (h : HInv x) (hdf : x.1.disconnectFrame = NULL_FRAME) : YInv x := by
  obtain ⟨⟨gh, hs, hg⟩, hn⟩ := h
  exact ⟨⟨_, _, SessInvD_of_SessInv x.1 gh x.2 [] hs hdf, hg⟩, hn⟩

end Ggrs

namespace Ggrs

/-- **C11 across two peers: run-time delay changes keep owner and remote in agreement.** The pair
world of `Proofs/Pair.lean` has `set_input_delay` calls of either session's local players as steps,
at any moments and with any values (`Half.setDelay`); arrivals are the next frame of a player of the
other peer, read off the owner's queue — fill frames of a delay increase included. For every such
run the receiver's stream of every player is a prefix of the owner's (`PPInv_run`), so after the
rollback phase of the next call on either side owner and remote peer use IDENTICAL inputs for that
player on every frame both have simulated and both hold. -/
theorem C11_agree_two_peers (x y : (P2P × TLState) × (P2P × TLState)) (h0 : PPInv x) (hrun : PStar x y)
    (nowA nowB : Nat) (sA' sB' : P2P) (reqsA reqsB : List Request)
    (hcA : y.1.1.advanceRollbackFrame nowA [] = .ok (sA', reqsA))
    (hcB : y.2.1.advanceRollbackFrame nowB [] = .ok (sB', reqsB)) :
    ∃ (r1A r1B : List Request),
      (reqsA = r1A ∨ ∃ ins, reqsA = r1A ++ [.advance ins]) ∧ (reqsB = r1B ∨ ∃ ins, reqsB = r1B ++ [.advance ins]) ∧
      ∀ p, ((p ∈ y.1.1.localPlayerHandles ∧ p ∉ y.2.1.localPlayerHandles) ∨
            (p ∈ y.2.1.localPlayerHandles ∧ p ∉ y.1.1.localPlayerHandles)) →
        p < y.1.1.sync.queues.length → p < y.2.1.sync.queues.length → ∀ f : Nat,
        (f : Int) < y.1.1.sync.currentFrame → (f : Int) < y.2.1.sync.currentFrame →
        (f : Int) ≤ (rget y.1.1.sync.queues p).lastAddedFrame → (f : Int) ≤ (rget y.2.1.sync.queues p).lastAddedFrame →
        (((execReqs y.1.2 r1A).R f).getD p default).1 = (((execReqs y.2.2 r1B).R f).getD p default).1 :=
  pair_agree x y h0 hrun nowA nowB sA' sB' reqsA reqsB hcA hcB

/-- The pair world does contain delay changes: an accepted or refused `set_input_delay` call of a
local player is a step. -/
example (s s' : P2P) (t : TLState) (b : P2P × TLState) (now handle delay : Nat) (r : Except GgrsError Unit)
    (h1 : handle ∈ s.localPlayerHandles) (h2 : handle < s.sync.queues.length)
    (h3 : s.setInputDelay now handle delay = .ok (s', r)) : PStep ((s, t), b) ((s', t), b) :=
  PStep.left _ _ _ (Half.setDelay s s' t b now handle delay r h1 h2 h3)

end Ggrs

namespace Ggrs

/-- **C11 across three peers.** The triple world (`Proofs/Triple.lean`) has `set_input_delay` calls of
any session's local players as steps (`TMove.setDelay`). For every run, sessions `a` and `b` — any
two, the construction is symmetric — use identical inputs, after the rollback phase of their next
calls, for every player owned by one of the three, on every frame both have simulated and both
hold. -/
theorem C11_agree_three_peers (x y : Tri) (h0 : TriInv x) (hrun : TStar x y) (nowA nowB : Nat) (sA' sB' : P2P)
    (reqsA reqsB : List Request)
    (hcA : y.a.1.advanceRollbackFrame nowA [] = .ok (sA', reqsA))
    (hcB : y.b.1.advanceRollbackFrame nowB [] = .ok (sB', reqsB)) :
    ∃ (r1A r1B : List Request),
      (reqsA = r1A ∨ ∃ ins, reqsA = r1A ++ [.advance ins]) ∧ (reqsB = r1B ∨ ∃ ins, reqsB = r1B ++ [.advance ins]) ∧
      ∀ p, OwnedByOne y p → p < y.a.1.sync.queues.length → p < y.b.1.sync.queues.length → ∀ f : Nat,
        (f : Int) < y.a.1.sync.currentFrame → (f : Int) < y.b.1.sync.currentFrame →
        (f : Int) ≤ (rget y.a.1.sync.queues p).lastAddedFrame → (f : Int) ≤ (rget y.b.1.sync.queues p).lastAddedFrame →
        (((execReqs y.a.2 r1A).R f).getD p default).1 = (((execReqs y.b.2 r1B).R f).getD p default).1 :=
  triple_agree x y h0 hrun nowA nowB sA' sB' reqsA reqsB hcA hcB

end Ggrs

