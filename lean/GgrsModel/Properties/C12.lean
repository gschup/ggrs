/-
C12 — Connection lifecycle events are well formed and correctly timed.

Model: Model/Protocol.lean (`UdpProtocol`). The endpoint theorems quantify over every sequence of
incoming messages (any loss, duplication, reordering, foreign packets; forged packets except Input
packets that request a disconnect, see `Ordinary` below) and polls at arbitrary times.

`C12_event_language` (by `EvInv_run`, Proofs/Events.lean): over every sequence of incoming messages,
polls (after which the session disconnects the endpoint if it finds `Disconnected`), `send_input`
calls, explicit disconnects and the initial `synchronize`, the events one endpoint hands to its
session form a word of
  Synchronizing(total,1) … Synchronizing(total,total-1) Synchronized
  (NetworkInterrupted NetworkResumed)* [NetworkInterrupted] [Disconnected]
(Input events anywhere), with nothing after `Disconnected`. It holds for the repaired code (F10:
`noteReceived` and `checkTimeouts` check `disconnect_event_sent`). Hypothesis `Ordinary`: incoming
Input packets do not carry `disconnect_requested` — no endpoint sends one that does
(`sendPendingOutput_flag`). Per remote ADDRESS the session forwards exactly these events
(`handle_event`), so this is the grammar for sessions with one endpoint per address.

Also: `C12_handshake`; session level, every state: `C12_running_set`, `C12_not_synchronized_iff`;
timing, one endpoint, every state: `C12_keepalive_sent`, `C12_no_interrupt_while_heard`,
`C12_heard_restarts_timer`, `C12_keepalive_defaults`. The keep-alive claim over timed runs of two
endpoints stays with the monitor (clause keepalive, family idle).
-/
import GgrsModel.Model.Inventory
import GgrsModel.Model.Sites.Protocol
import GgrsModel.Model.Sites.P2pSession
import GgrsModel.Model.Sites.SpectatorSession
import GgrsModel.Proofs.Endpoint
import GgrsModel.Proofs.Events
import GgrsModel.Model.P2P
import GgrsModel.Proofs.Monad

namespace Ggrs.Endpoint

inductive EpOp where
  | handle (now : Nat) (msg : Msg)
  | poll (now : Nat) (connectStatus : List ConnStatus)

/-- What counts as a round trip: a handshake reply matching an outstanding request. -/
def matchedReply (e : Endpoint) (msg : Msg) : Bool :=
  e.state == .synchronizing && !(e.remoteMagic != 0 && msg.magic != e.remoteMagic) &&
  match msg.body with
  | .syncReply r => e.syncRandomRequests.contains r
  | _ => false

def stepOp (e : Endpoint) : EpOp → M Endpoint
  | .handle now msg => e.handleMessage now msg
  | .poll now cs => do let (e', _) ← e.poll now cs; pure e'

def runOps : Endpoint → Nat → List EpOp → M (Endpoint × Nat)
  | e, n, [] => .ok (e, n)
  | e, n, op :: rest => do
    let n' := match op with
      | .handle _ msg => if matchedReply e msg then n + 1 else n
      | .poll .. => n
    let e' ← stepOp e op
    runOps e' n' rest

def HsInv (e : Endpoint) (n : Nat) : Prop :=
  (e.state = .synchronizing ∧ e.syncRemaining + n = NUM_SYNC_PACKETS ∧ e.syncRemaining ≥ 1) ∨
  (e.state = .running ∧ n = NUM_SYNC_PACKETS)

theorem HsInv_of_hs {e e' : Endpoint} {n : Nat} (h : e'.hs = e.hs) (hi : HsInv e n) : HsInv e' n := by
  obtain ⟨h1, h2⟩ := hs_eq_iff.mp h
  unfold HsInv
  rw [h1, h2]; exact hi

theorem hs_poll {e e' : Endpoint} {now : Nat} {cs : List ConnStatus} {evs : List ProtoEvent}
    (hst : e.state = .synchronizing ∨ e.state = .running)
    (h : e.poll now cs = .ok (e', evs)) : e'.hs = e.hs := by
  obtain ⟨e0, hp, rfl, _⟩ := poll_ok h
  show e0.hs = e.hs
  rcases hst with hst | hst
  · exact hs_of_ev (pollState_synchronizing hst hp)
  · obtain ⟨e1, hev, rfl⟩ := pollState_running hst hp
    exact (hs_checkTimeouts e1 now).trans (hs_of_ev hev)

theorem matchedReply_iff {e : Endpoint} {msg : Msg} : matchedReply e msg = true ↔
    e.state = .synchronizing ∧ (e.remoteMagic != 0 && msg.magic != e.remoteMagic) = false ∧
    ∃ r, msg.body = .syncReply r ∧ e.syncRandomRequests.contains r = true := by
  unfold matchedReply
  rw [Bool.and_eq_true, Bool.and_eq_true, beq_iff_eq, Bool.not_eq_true', and_assoc]
  refine and_congr_right fun _ => and_congr_right fun _ => ?_
  cases msg.body <;> simp

theorem hs_handleMessage {e e' : Endpoint} {now : Nat} {msg : Msg} (h : e.handleMessage now msg = .ok e')
    (hm : ¬ matchedReply e msg = true) : e'.hs = e.hs := by
  rcases handleMessage_ok h with ⟨_, rfl⟩ | ⟨hf, hk⟩
  · rfl
  · refine Eq.trans ?_ (hs_noteReceived e now)
    rcases hk with ⟨hev, _⟩ | ⟨r, hb, rfl⟩ | ⟨st, dr, sf, af, bytes, _, rfl⟩
    · exact hs_of_ev hev
    · rw [onSyncReply_unmatched]
      rw [(noteReceived_hs e now).1, (noteReceived_hs e now).2.2.1]
      exact fun hc => hm (matchedReply_iff.mpr ⟨hc.1, hf, r, hb, hc.2⟩)
    · exact hs_onInput _ now st dr sf af bytes

theorem hsInv_handle (e e' : Endpoint) (n now : Nat) (msg : Msg) (hi : HsInv e n)
    (h : e.handleMessage now msg = .ok e') :
    HsInv e' (if matchedReply e msg then n + 1 else n) := by
  by_cases hm : matchedReply e msg = true
  · rw [if_pos hm]
    obtain ⟨hst, hf, r, hb, hc⟩ := matchedReply_iff.mp hm
    have : e.handleMessage now msg = .ok ((e.noteReceived now).onSyncReply now msg.magic r) := by
      simp [handleMessage, hst, hf, hb, pure_eq_ok]
    cases this.symm.trans h
    obtain ⟨hn1, hn2, hn3, _⟩ := noteReceived_hs e now
    obtain ⟨h1, h2⟩ := onSyncReply_matched (e.noteReceived now) now msg.magic r (hn1.trans hst) (hn3 ▸ hc)
    rw [hn2] at h1 h2
    rcases hi with ⟨_, hs2, hs3⟩ | ⟨hs1, _⟩
    · unfold HsInv
      rw [h1, h2]
      by_cases hpos : e.syncRemaining - 1 > 0
      · rw [if_pos hpos]; exact Or.inl ⟨rfl, by omega, hpos⟩
      · rw [if_neg hpos]; exact Or.inr ⟨rfl, by omega⟩
    · rw [hst] at hs1; cases hs1
  · rw [if_neg hm]
    exact HsInv_of_hs (hs_handleMessage h hm) hi

theorem hsInv_run : ∀ (ops : List EpOp) (e e' : Endpoint) (n n' : Nat),
    HsInv e n → runOps e n ops = .ok (e', n') → HsInv e' n' := by
  intro ops
  induction ops with
  | nil => intro e e' n n' hi h; cases h; exact hi
  | cons op rest ih =>
    intro e e' n n' hi h
    unfold runOps at h
    obtain ⟨e1, hs1, h⟩ := bind_ok h
    refine ih e1 e' _ n' ?_ h
    cases op with
    | handle now msg => exact hsInv_handle e e1 n now msg hi hs1
    | poll now cs =>
      unfold stepOp at hs1
      obtain ⟨⟨e1', evs⟩, hp, hs1⟩ := bind_ok hs1
      cases pure_ok hs1
      exact HsInv_of_hs (hs_poll (hi.imp And.left And.left) hp) hi

theorem HsInv_reachable (e0 e1 e' : Endpoint) (now0 : Nat) (ops : List EpOp) (n : Nat)
    (h0 : e0.synchronize now0 = .ok e1) (hrun : runOps e1 0 ops = .ok (e', n)) : HsInv e' n := by
  unfold synchronize at h0
  obtain ⟨_, h0⟩ := ensure_bind_ok h0
  cases pure_ok h0
  exact hsInv_run ops _ e' 0 n (HsInv_of_hs (hs_of_ev (ev_sendSyncRequest _ now0))
    (Or.inl ⟨rfl, Nat.add_zero _, (by decide : NUM_SYNC_PACKETS ≥ 1)⟩)) hrun

/-- **C12, handshake.** From an endpoint just asked to synchronize, whatever arrives and whenever it
is polled: if it is Running afterwards, exactly `NUM_SYNC_PACKETS` of the messages were handshake
replies matching a request outstanding at that moment — stray, duplicated or foreign replies never
count. -/
theorem C12_handshake (e0 e1 e' : Endpoint) (now0 : Nat) (ops : List EpOp) (n : Nat)
    (h0 : e0.synchronize now0 = .ok e1)
    (hrun : runOps e1 0 ops = .ok (e', n))
    (hr : e'.state = .running) : n = NUM_SYNC_PACKETS := by
  rcases HsInv_reachable e0 e1 e' now0 ops n h0 hrun with ⟨h1, _⟩ | ⟨_, h2⟩
  · rw [h1] at hr; cases hr
  · exact h2

end Ggrs.Endpoint

namespace Ggrs.Endpoint

theorem EvInv_reachable (handles : List Nat) (peerAddr numPlayers localPlayers maxPrediction dt dn fps : Nat)
    (desync : Option Nat) (magic now : Nat) (y : Endpoint × List ProtoEvent)
    (hrun : EvStar (Endpoint.new handles peerAddr numPlayers localPlayers maxPrediction dt dn fps desync magic now, []) y) :
    EvInv y :=
  EvInv_run _ y ⟨.sync 0, .sync 0, rfl, rfl, Iff.mpr (Cons_initializing rfl) ⟨rfl, rfl, rfl⟩⟩ hrun

/-- **C12, event language (endpoint level, all sequences).** `y.2` is the list of events the endpoint
has handed to its session so far (`EvStep.poll` appends what a poll returns); `accEv` is the automaton
of the lifecycle language (file header). After every run of `EvStep` from a freshly built endpoint the
events handed out so far are the beginning of a word of the language. -/
theorem C12_event_language (handles : List Nat) (peerAddr numPlayers localPlayers maxPrediction dt dn fps : Nat)
    (desync : Option Nat) (magic now : Nat) (y : Endpoint × List ProtoEvent)
    (hrun : EvStar (Endpoint.new handles peerAddr numPlayers localPlayers maxPrediction dt dn fps desync magic now, []) y) :
    ∃ ls, accList (.sync 0) y.2 = some ls := by
  obtain ⟨ls, _, h1, _⟩ := EvInv_reachable handles peerAddr numPlayers localPlayers maxPrediction dt dn fps desync magic now y hrun
  exact ⟨ls, h1⟩

/-- The automaton really rejects the malformed streams: two examples (the second is F10's). -/
example : accList (.sync 0) [.synchronized] = none := by decide
example : accList (.running true) [.disconnected, .networkResumed] = none := by decide

end Ggrs.Endpoint

namespace Ggrs.P2P

/-- **C12, when the session turns Running (every state).** `check_initial_sync`, the only place the
session turns Running, does so exactly when `is_synchronized()` holds of every endpoint — remote
players AND spectators. `is_synchronized()` is Running, Disconnected or Shutdown: an endpoint that was
disconnected before it finished its handshake counts too. -/
theorem C12_running_set (s : P2P) :
    s.checkInitialSync.running = (s.running ||
      (s.remotes.all (·.2.isSynchronized) && s.spectators.all (·.2.isSynchronized))) := by
  unfold checkInitialSync
  split
  · rename_i hr
    rw [hr]; rfl
  · rename_i hr
    rw [Bool.eq_false_iff.mpr hr]
    split
    · rename_i hall
      rw [hall]; rfl
    · rename_i hall
      rw [Bool.eq_false_iff.mpr hall]
      exact Bool.eq_false_iff.mpr hr

/-- `advance_frame` reports NotSynchronized, and changes nothing, if the session is not Running (every
state). -/
theorem C12_not_synchronized_iff (s s' : P2P) (now : Nat) (r : Except GgrsError (List Request))
    (h : s.advanceFrameCore now = .ok (s', r)) : s.running = false → r = .error .notSynchronized ∧ s' = s := by
  intro hr
  unfold advanceFrameCore at h
  simp only [hr, Bool.not_false, if_true] at h
  obtain ⟨rfl, rfl⟩ := Prod.mk.inj (pure_ok h)
  exact ⟨rfl, rfl⟩

end Ggrs.P2P

namespace Ggrs.Endpoint

/-- **C12, keep-alive.** After the periodic part of any poll of a Running endpoint at time `now`, its
last send lies at most `KEEP_ALIVE_INTERVAL` back (else this poll queues a `KeepAlive` or a quality
report stamped `now`). So an endpoint polled every `g` µs sends at least every
`KEEP_ALIVE_INTERVAL + g`. -/
theorem C12_keepalive_sent (e : Endpoint) (now : Nat) :
    now ≤ (e.periodicReports now).lastSendTime + ms KEEP_ALIVE_INTERVAL ∧
    ((e.periodicReports now).lastSendTime = e.lastSendTime ∨
      ((e.periodicReports now).lastSendTime = now ∧ (e.periodicReports now).sendQueue.length > e.sendQueue.length)) := by
  -- `rw`, `if_pos`, `if_neg` and not `unfold`/`simp only`/`split`: a step that changes the goal only up
  -- to definitional equality makes the kernel compare the timer literal `ms KEEP_ALIVE_INTERVAL` with
  -- a variable by unary counting, so this proof only rewrites
  rw [periodicReports]
  by_cases hq : e.runningLastQualityReport + ms QUALITY_REPORT_INTERVAL < now
  · rw [if_pos hq]
    have h1 : (e.sendQualityReport now).lastSendTime = now := rfl
    have h2 : (e.sendQualityReport now).sendQueue.length = e.sendQueue.length + 1 := by
      simp [sendQualityReport, queueMessage]
    rw [if_neg (by omega)]
    exact ⟨by omega, Or.inr ⟨h1, by omega⟩⟩
  · rw [if_neg hq]
    by_cases hk : e.lastSendTime + ms KEEP_ALIVE_INTERVAL < now
    · rw [if_pos hk]
      exact ⟨Nat.le_add_right now _, Or.inr ⟨rfl, by simp [queueMessage]⟩⟩
    · rw [if_neg hk]
      exact ⟨by omega, Or.inl rfl⟩

theorem checkTimeouts_heard (e : Endpoint) (now : Nat)
    (hle : e.disconnectNotifyStart ≤ e.disconnectTimeout)
    (hheard : now ≤ e.lastRecvTime + e.disconnectNotifyStart) : e.checkTimeouts now = e := by
  unfold checkTimeouts
  have h1 : ¬ e.lastRecvTime + e.disconnectNotifyStart < now := by omega
  have h2 : ¬ e.lastRecvTime + e.disconnectTimeout < now := by omega
  simp [h1, h2]

/-- **C12, no interruption while the peer is heard.** A poll raises neither `NetworkInterrupted` nor
`Disconnected` if a packet of the peer was handled within the last `disconnect_notify_start` (and
the notify delay is not longer than the timeout). -/
theorem C12_no_interrupt_while_heard (e : Endpoint) (now : Nat)
    (hle : e.disconnectNotifyStart ≤ e.disconnectTimeout)
    (hheard : now ≤ e.lastRecvTime + e.disconnectNotifyStart) :
    (e.checkTimeouts now).eventQueue = e.eventQueue ∧
    (e.checkTimeouts now).disconnectNotifySent = e.disconnectNotifySent ∧
    (e.checkTimeouts now).disconnectEventSent = e.disconnectEventSent := by
  rw [checkTimeouts_heard e now hle hheard]
  exact ⟨rfl, rfl, rfl⟩

/-- Handling any packet that passes the magic filter restarts the silence timer. -/
theorem C12_heard_restarts_timer (e : Endpoint) (now : Nat) : (e.noteReceived now).lastRecvTime = now := by
  unfold noteReceived
  simp only
  split <;> rfl

/-- **C12, the keep-alive arithmetic for the defaults.** Two connected sessions that merely poll, each
at least every `g` µs, over a link with one-way latency at most `l` µs: the sender emits at least
every `KEEP_ALIVE_INTERVAL + g` (`C12_keepalive_sent`), the receiver handles the packet within
`l + g`, so its silence never exceeds `KEEP_ALIVE_INTERVAL + 2 g + l`; if that is at most the notify
delay no interruption is raised (`C12_no_interrupt_while_heard`). With the default 500 ms:
`g = l = 100000`, or 60 fps polling (`g = 16667`) with 250 ms latency. -/
theorem C12_keepalive_defaults :
    ms KEEP_ALIVE_INTERVAL + 2 * 100000 + 100000 ≤ ms DEFAULT_DISCONNECT_NOTIFY_START ∧
    ms KEEP_ALIVE_INTERVAL + 2 * 16667 + 250000 ≤ ms DEFAULT_DISCONNECT_NOTIFY_START := by
  decide

end Ggrs.Endpoint

