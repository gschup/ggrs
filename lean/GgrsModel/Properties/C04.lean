/-
C04 — Speculation is bounded by the prediction window; lockstep never speculates.

`rollbackGate` is the end of `advance_rollback_frame` (the only place a rollback-mode session
simulates a *new* frame), `advanceLockstepFrame` is `advance_lockstep_frame`, `loadFrame` is
`SyncLayer::load_frame` (the only producer of LoadGameState requests).

Per call, every state: `C04_window`, `C04_window_frames`, `C04_load`, `C04_lockstep`. Over every run
of a session: `C04_window_all` (`_delay`, `_drops`): a newly simulated frame lies at most
`max_prediction` beyond the newest frame with everybody's real input; `C04_lockstep_all` (`_delay`,
`_drops`), `C04_entry_point_lockstep`: a lockstep call returns nothing or one AdvanceFrame on real
inputs. `C04_lockstep_agree_two_peers`: the product of two lockstep sessions.
-/
import GgrsModel.Model.Inventory
import GgrsModel.Proofs.Demo
import GgrsModel.Proofs.PairLockstep
import GgrsModel.Model.Sites.SyncLayer
import GgrsModel.Model.Sites.P2pSession
import GgrsModel.Model.P2P
import GgrsModel.Proofs.Shape
import GgrsModel.Proofs.Session
import GgrsModel.Proofs.Lockstep
import GgrsModel.Proofs.DelayStep
import GgrsModel.Proofs.LockstepNet
import GgrsModel.Proofs.EntryPoint
import GgrsModel.Proofs.DropWorld
import GgrsModel.Proofs.LockstepDrop

namespace Ggrs

/-- `omega` does not look through the `Frame` abbreviation; these carry the arithmetic. -/
theorem int_sub_lt (a b c : Int) (h : a - b < c) : a < b + c := by omega
theorem int_sub_le_swap (a m f : Int) (h : a - m ≤ f) : a - f ≤ m := by omega

namespace P2P

/-- **C04, window.** A rollback-mode session simulates a new frame only if fewer than
`max_prediction` frames separate the current frame from the last confirmed one (with nothing
confirmed yet: only if the current frame itself is below `max_prediction`); otherwise the call
leaves `current_frame()` and the request list as they were. -/
theorem C04_window (s s' : P2P) (reqs reqs' : List Request) (h : s.rollbackGate reqs = .ok (s', reqs')) :
    (s.framesAheadOfConfirmed < s.maxPrediction ∧ s'.sync.currentFrame = s.sync.currentFrame + 1 ∧
        ∃ inputs, reqs' = reqs ++ [.advance inputs]) ∨
    (¬ s.framesAheadOfConfirmed < s.maxPrediction ∧ s' = s ∧ reqs' = reqs) := by
  rcases rollbackGate_ok h with ⟨hg, rfl, rfl⟩ | ⟨hg, sy, ins, hsi, rfl, rfl⟩
  · exact Or.inr ⟨hg, rfl, rfl⟩
  · obtain ⟨qs, _, rfl⟩ := SyncLayer.synchronizedInputs_ok hsi
    exact Or.inl ⟨hg, rfl, ins, rfl⟩

theorem C04_window_frames (s s' : P2P) (reqs reqs' : List Request) (h : s.rollbackGate reqs = .ok (s', reqs'))
    (hadv : s'.sync.currentFrame ≠ s.sync.currentFrame) :
    (s.sync.lastConfirmedFrame = NULL_FRAME → s.sync.currentFrame < s.maxPrediction) ∧
    (s.sync.lastConfirmedFrame ≠ NULL_FRAME → s.sync.currentFrame < s.sync.lastConfirmedFrame + s.maxPrediction) := by
  rcases C04_window_frames_aux s s' reqs reqs' h hadv with ⟨hn, hlt⟩ | ⟨hn, hlt⟩
  · exact ⟨fun _ => hlt, fun hne => absurd hn hne⟩
  · exact ⟨fun he => absurd he hn, fun _ => int_sub_lt _ _ _ hlt⟩

end P2P

namespace SyncLayer

/-- **C04, load window.** Every LoadGameState request names a frame strictly before the current
frame and at most `max_prediction` frames back; anything else is the assertion (a panic). -/
theorem C04_load (s s' : SyncLayer) (f : Frame) (r : Request) (h : s.loadFrame f = .ok (s', r)) :
    r = .load f ∧ f < s.currentFrame ∧ s.currentFrame - f ≤ s.maxPrediction ∧ s'.currentFrame = f := by
  obtain ⟨_, h2, h3, _, rfl, rfl⟩ := loadFrame_ok h
  exact ⟨rfl, h2, int_sub_le_swap _ _ _ h3, rfl⟩

end SyncLayer

namespace P2P

/-- **C04, lockstep.** With a prediction window of 0 a call's `advance_lockstep_frame` never issues
SaveGameState or LoadGameState: it appends nothing — and then `current_frame()` is unchanged — or
exactly one AdvanceFrame whose inputs are all Confirmed or Disconnected, never Predicted, and the
frame moves on by one. -/
theorem C04_lockstep (s s' : P2P) (now : Nat) (reqs reqs' : List Request)
    (h : s.advanceLockstepFrame now reqs = .ok (s', reqs')) :
    (reqs' = reqs ∧ s'.sync.currentFrame = s.sync.currentFrame) ∨
    (∃ inputs, reqs' = reqs ++ [.advance inputs] ∧ s'.sync.currentFrame = s.sync.currentFrame + 1 ∧
      ∀ i ∈ inputs, i.2 = .confirmed ∨ i.2 = .disconnected) := by
  obtain ⟨s1, s2, s3, c1, c2, sy4, hreg, _, hstep, _, hspec, hset, hs'⟩ := advanceLockstepFrame_ok h
  have hk1 := registerLocalInputs_cells s s1 now hreg
  have hc3 := sendConfirmed_sameCore _ _ _ _ hspec
  obtain ⟨_, hcur4⟩ := setLastConfirmed_cells _ _ _ _ hset
  have hfin : s'.sync.currentFrame = s2.sync.currentFrame := by
    rw [hs']; show sy4.currentFrame = _; rw [hcur4, hc3.sync]
  rcases lockstepAdvance_ok hstep with ⟨_, hs2, hr2⟩ | ⟨_, cis, inputs, _, hmap, hs2, hr2⟩
  · exact Or.inl ⟨hr2, by rw [hfin, hs2, hk1.2.1]⟩
  · refine Or.inr ⟨inputs, hr2, by rw [hfin, hs2]; show s1.sync.currentFrame + 1 = _; rw [hk1.2.1], ?_⟩
    obtain ⟨hil, hip⟩ := mapM_ok _ _ _ hmap
    intro i hi
    obtain ⟨p, hp, rfl⟩ := List.getElem_of_mem hi
    rw [← rget_eq_getElem _ _ hp, lockstepInput_ok (hip p (by rw [← hil]; exact hp))]
    split
    · exact Or.inr rfl
    · exact Or.inl rfl

end P2P

/-- **C04, the window for every schedule (no disconnected players).** After any run of `SStep`s, a
call that simulates a new frame `c` leaves every player's stream `vals_p` with
`c - (|vals_p| - 1) ≤ max_prediction`: the new frame lies at most `max_prediction` frames beyond the
newest frame for which the session holds every player's real input. -/
theorem C04_window_all (x y : P2P × TLState) (h0 : ∃ gh, SessInv x.1 gh x.2 []) (hrun : SStar x y)
    (now : Nat) (s' : P2P) (reqs' : List Request) (hadv : y.1.advanceRollbackFrame now [] = .ok (s', reqs'))
    (hnew : s'.sync.currentFrame ≠ y.1.sync.currentFrame) :
    ∃ gh', SessInv s' gh' y.2 reqs' ∧ ∀ p, p < y.1.sync.queues.length →
      y.1.sync.currentFrame - ((gh'.specs p).vals.length - 1 : Int) ≤ y.1.maxPrediction := by
  obtain ⟨gh, h⟩ := SessInv_run x y h0 hrun
  exact window_all y.1 s' gh y.2 [] reqs' now h hadv hnew

/-- **C04, lockstep never speculates — every schedule (no disconnected players).** From any state
satisfying the lockstep invariant (a freshly built session does: `LkInv_init`) run ANY interleaving
of local input submissions, remote-input arrivals and `advance_lockstep_frame` calls, the game
executing every request list. Then (1) every row of the game's timeline below the current frame is
the full row of every player's real input, each with status Confirmed; and (2) one more call returns
either no request at all (a player's input for the current frame is missing: the frame is not
consumed) or exactly one AdvanceFrame carrying the full row of real, Confirmed inputs of the current
frame — never a SaveGameState, never a LoadGameState. -/
theorem C04_lockstep_all (x y : P2P × TLState) (h0 : ∃ gh, LkInv x.1 gh x.2) (hrun : LkStar x y) :
    ∃ gh, LkInv y.1 gh y.2 ∧
      (∀ f : Nat, (f : Int) < y.1.sync.currentFrame → y.2.R f = rowOf gh y.1.sync.queues.length f) ∧
      ∀ (now : Nat) (s' : P2P) (reqs' : List Request), y.1.advanceLockstepFrame now [] = .ok (s', reqs') →
        ∃ gh', LkInv s' gh' (execReqs y.2 reqs') ∧
          ((reqs' = [] ∧ s'.sync.currentFrame = y.1.sync.currentFrame) ∨
           (∃ c : Nat, y.1.sync.currentFrame = (c : Int) ∧
             reqs' = [.advance (rowOf gh' y.1.sync.queues.length c)] ∧
             s'.sync.currentFrame = y.1.sync.currentFrame + 1)) := by
  obtain ⟨gh, h⟩ := LkInv_run x y h0 hrun
  refine ⟨gh, h, h.timeline, ?_⟩
  intro now s' reqs' hadv
  obtain ⟨gh', h', hcase, _⟩ := lockstepTick_spec y.1 s' gh y.2 now reqs' h hadv
  exact ⟨gh', h', hcase⟩

/-- The hypotheses are met by a freshly built session. -/
example (s : P2P) (R : Nat → List (Input × InputStatus)) (n : Nat)
    (hq : s.sync.queues = List.replicate n InputQueue.new) (hst : s.localConnectStatus = List.replicate n {})
    (hc : s.sync.currentFrame = 0) : ∃ gh, LkInv s gh ⟨0, R⟩ := ⟨_, LkInv_init s R n hq hst hc⟩

/-- `C04_window_all` for runs that also contain `set_input_delay` calls. -/
theorem C04_window_delay (x y : P2P × TLState) (h0 : HInv x) (hrun : DStar x y)
    (now : Nat) (s' : P2P) (reqs' : List Request) (hadv : y.1.advanceRollbackFrame now [] = .ok (s', reqs'))
    (hnew : s'.sync.currentFrame ≠ y.1.sync.currentFrame) :
    ∃ gh', SessInv s' gh' y.2 reqs' ∧ ∀ p, p < y.1.sync.queues.length →
      y.1.sync.currentFrame - ((gh'.specs p).vals.length - 1 : Int) ≤ y.1.maxPrediction := by
  obtain ⟨⟨gh, h, _⟩, _⟩ := HInv_run x y h0 hrun
  exact window_all y.1 s' gh y.2 [] reqs' now h hadv hnew

/-- `C04_lockstep_all` for runs that also contain `set_input_delay` calls of local players. -/
theorem C04_lockstep_delay (x y : P2P × TLState) (h0 : LkNetInv x) (hrun : DLkStar x y) :
    ∃ gh, LkInv y.1 gh y.2 ∧
      (∀ f : Nat, (f : Int) < y.1.sync.currentFrame → y.2.R f = rowOf gh y.1.sync.queues.length f) ∧
      ∀ (now : Nat) (s' : P2P) (reqs' : List Request), y.1.advanceLockstepFrame now [] = .ok (s', reqs') →
        ∃ gh', LkInv s' gh' (execReqs y.2 reqs') ∧
          ((reqs' = [] ∧ s'.sync.currentFrame = y.1.sync.currentFrame) ∨
           (∃ c : Nat, y.1.sync.currentFrame = (c : Int) ∧
             reqs' = [.advance (rowOf gh' y.1.sync.queues.length c)] ∧
             s'.sync.currentFrame = y.1.sync.currentFrame + 1)) := by
  obtain ⟨⟨gh, h, _⟩, _⟩ := LkNetInv_drun x y h0 hrun
  exact C04_lockstep_all y y ⟨gh, h⟩ (LkStar.refl y)

/-- **C04 at the real entry point (lockstep).** After any run of local input submissions, lockstep
calls, `set_input_delay` calls and arrivals, a successful call of `advanceFrameCore` itself (desync
bookkeeping, disconnect bookkeeping, `advance_lockstep_frame`, wait recommendation) made while no
running endpoint reports a disconnected player returns nothing or exactly one AdvanceFrame — never a
save or a load — and the lockstep invariants hold again with the game having executed it. -/
theorem C04_entry_point_lockstep (x y : P2P × TLState) (h0 : LkNetInv x) (hrun : DLkStar x y)
    (now : Nat) (s' : P2P) (reqs' : List Request)
    (hmp : (y.1.maxPrediction == 0) = true)
    (hng : ∀ s1, y.1.desyncPhase now = .ok s1 → NoGossip s1)
    (hcall : y.1.advanceFrameCore now = .ok (s', .ok reqs')) :
    LkNetInv (s', execReqs y.2 reqs') ∧ (reqs' = [] ∨ ∃ ins, reqs' = [.advance ins]) :=
  lockstep_call y.1 s' y.2 now reqs' (LkNetInv_drun x y h0 hrun) hmp hng hcall

/-- **C04, the window with dropped players (rollback sessions, either saving mode).** After any run
of the world with drops (`XStep`), a call that simulates a new frame `c` leaves the stream of every
player that is still connected with `c - (|vals_p| - 1) ≤ max_prediction`: a dropped player no
longer holds the session back, and no longer counts. -/
theorem C04_window_drops (x y : P2P × TLState) (h0 : XInv x) (hrun : XStar x y)
    (now : Nat) (s' : P2P) (reqs' : List Request) (hadv : y.1.advanceRollbackFrame now [] = .ok (s', reqs'))
    (hnew : s'.sync.currentFrame ≠ y.1.sync.currentFrame) :
    ∃ gh', SessInvD s' gh' y.2 reqs' s'.localConnectStatus ∧ ∀ p, p < y.1.sync.queues.length →
      (rget y.1.localConnectStatus p).disconnected = false →
      y.1.sync.currentFrame - ((gh'.specs p).vals.length - 1 : Int) ≤ y.1.maxPrediction := by
  obtain ⟨gh, st0, h⟩ := XInv_run x y h0 hrun
  exact window_allD y.1 s' gh y.2 [] reqs' now st0 h hadv hnew

/-- **C04, lockstep never speculates — with dropped players.** After any run of local input
submissions, arrivals, lockstep calls, accepted `disconnect_player` calls and Disconnected events, a
lockstep call returns no request or exactly one AdvanceFrame whose row holds, per player, the real
input with status Confirmed or (for a player marked disconnected as of an earlier frame) the blank
input with status Disconnected. -/
theorem C04_lockstep_drops (x y : P2P × TLState) (h0 : ∃ gh, LkInvD x.1 gh x.2) (hrun : LkXStar x y)
    (now : Nat) (s' : P2P) (reqs' : List Request) (hadv : y.1.advanceLockstepFrame now [] = .ok (s', reqs')) :
    ∃ gh', LkInvD s' gh' (execReqs y.2 reqs') ∧
      ((reqs' = [] ∧ s'.sync.currentFrame = y.1.sync.currentFrame) ∨
       (∃ c : Nat, y.1.sync.currentFrame = (c : Int) ∧
         reqs' = [.advance (rowOfD gh' y.1.localConnectStatus y.1.sync.queues.length c)] ∧
         s'.sync.currentFrame = y.1.sync.currentFrame + 1)) := by
  obtain ⟨gh, h⟩ := LkInvD_run x y h0 hrun
  obtain ⟨gh', h', hcase, _⟩ := lockstepTick_specD y.1 s' gh y.2 now reqs' h hadv
  exact ⟨gh', h', hcase⟩

/-- **Non-vacuity of the lockstep world.** A freshly built lockstep session satisfies the lockstep
invariant, and `LkStar` contains the run it is meant for: the user submits an input and calls
`advance_frame`, which STALLS (empty request list, frame unchanged) because the remote input is
missing; the remote input arrives; the next call simulates frame 0 on the full row of real inputs,
both Confirmed. -/
theorem C04_lockstep_nonvacuous :
    (∃ gh, LkInv demoLk gh ⟨0, fun _ => []⟩) ∧ (∃ t', LkStar (demoLk, ⟨0, fun _ => []⟩) (demoLk2, t')) ∧
    (getOk (lkTick demoLk 5)).2 = [] ∧ demoLk1.sync.currentFrame = 0 ∧
    (getOk (lkTick demoLk1r 5)).2 = [.advance [(5, .confirmed), (9, .confirmed)]] ∧ demoLk2.sync.currentFrame = 1 :=
  ⟨⟨_, LkInv_init demoLk (fun _ => []) 2 rfl rfl rfl⟩, demo_lockstep_run _, demo_lk_facts⟩

/-- **C04/C01 in lockstep across two peers.** Two lockstep sessions side by side
(`Proofs/PairLockstep.lean`): either user submits local inputs, either session calls `advance_frame`
(its game executing the requests), and the next frame of a player of the other peer arrives, read
off the owner's queue. After ANY such run every frame both games have simulated carries, for every
player owned by one of the two sessions, the SAME input in both timelines (with
`C01_lockstep_replay`: the two games are in the same state at every frame both have reached). -/
theorem C04_lockstep_agree_two_peers (x y : (P2P × TLState) × (P2P × TLState)) (h0 : LkPPInv x) (hrun : LkPStar x y) :
    ∀ p, ((p ∈ y.1.1.localPlayerHandles ∧ p ∉ y.2.1.localPlayerHandles) ∨
          (p ∈ y.2.1.localPlayerHandles ∧ p ∉ y.1.1.localPlayerHandles)) →
      p < y.1.1.sync.queues.length → p < y.2.1.sync.queues.length → ∀ f : Nat,
      (f : Int) < y.1.1.sync.currentFrame → (f : Int) < y.2.1.sync.currentFrame →
      ((y.1.2.R f).getD p default).1 = ((y.2.2.R f).getD p default).1 :=
  lkpair_agree x y h0 hrun

theorem C04_lockstep_pair_init (a b : P2P) (RA RB : Nat → List (Input × InputStatus)) (n : Nat)
    (hqa : a.sync.queues = List.replicate n InputQueue.new) (hsta : a.localConnectStatus = List.replicate n {})
    (hca : a.sync.currentFrame = 0) (hoa : a.outgoingLocalInputs = []) (hna : a.nextSpectatorFrame = 0)
    (hqb : b.sync.queues = List.replicate n InputQueue.new) (hstb : b.localConnectStatus = List.replicate n {})
    (hcb : b.sync.currentFrame = 0) (hob : b.outgoingLocalInputs = []) (hnb : b.nextSpectatorFrame = 0) :
    LkPPInv ((a, ⟨0, RA⟩), (b, ⟨0, RB⟩)) := by
  refine ⟨_, _, LkInv_init a RA n hqa hsta hca, GlueInv_init a _ n (fun _ => rfl) hoa hsta (by rw [hqa]; simp), ?_,
    LkInv_init b RB n hqb hstb hcb, GlueInv_init b _ n (fun _ => rfl) hob hstb (by rw [hqb]; simp), ?_, ?_, ?_⟩
  · show 0 ≤ a.nextSpectatorFrame; rw [hna]; exact Int.le_refl _
  · show 0 ≤ b.nextSpectatorFrame; rw [hnb]; exact Int.le_refl _
  · intro p _ _; exact PrefixOf.refl _
  · intro p _ _; exact PrefixOf.refl _

/-- **Non-vacuity of the lockstep pair.** Two freshly built lockstep sessions satisfy the invariant;
both users submit inputs, both calls stall, B's frame 0 — read off B's queue, where the stalled
call has put it — arrives at A, and A's next call simulates frame 0 on the full confirmed row. -/
theorem C04_lockstep_pair_nonvacuous :
    LkPPInv ((demoLk, ⟨0, fun _ => []⟩), (demoLkPeer, ⟨0, fun _ => []⟩)) ∧
    (∃ tA' tB', LkPStar ((demoLk, ⟨0, fun _ => []⟩), (demoLkPeer, ⟨0, fun _ => []⟩)) ((demoLk2, tA'), (demoLkB1, tB'))) ∧
    demoLk2.sync.currentFrame = 1 :=
  ⟨C04_lockstep_pair_init demoLk demoLkPeer _ _ 2 rfl rfl rfl rfl rfl rfl rfl rfl rfl rfl, demo_lkpair_run _ _, demo_lk_facts.2.2.2⟩

end Ggrs

