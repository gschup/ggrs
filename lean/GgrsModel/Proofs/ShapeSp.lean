/-
`tick_shape` read with `sparse = true`, with `last_saved_frame` tracked.
-/
import GgrsModel.Proofs.Shape

namespace Ggrs

def RBlock (cur : Int) (B : List Request) : Prop :=
  ∃ (r : Frame) (L : List Request), B = [.load r] ++ L ∧ 0 ≤ r ∧ r < cur ∧ ResimShape true 0 r (cur - r).toNat L

theorem Rollback.rblock {cells : List Cell} {cur r : Frame} {B : List Request} (h : Rollback true cells cur r B) :
    RBlock cur B ∧ ∃ L, B = [.load r] ++ L := by
  obtain ⟨L, hB, h0, hlt, _, hsh⟩ := h
  exact ⟨⟨r, L, hB, h0, hlt, hsh⟩, L, hB⟩

/-- `tick_shape` with sparse saving: the first rollback block loads the LAST SAVED frame, the second
(`check_last_saved_state`) the then last saved one. -/
theorem tick_shape_sp (s s' : P2P) (now : Nat) (reqs reqs' : List Request) (hsp : s.sparse = true)
    (h : s.advanceRollbackFrame now reqs = .ok (s', reqs')) :
    ∃ (B1 B2 G : List Request), reqs' = reqs ++ B1 ++ B2 ++ G ∧
      (B1 = [] ∨ (RBlock s.sync.currentFrame B1 ∧ ∃ L, B1 = [.load s.sync.lastSavedFrame] ++ L)) ∧
      (B2 = [] ∨ (B2 = [.save s.sync.currentFrame] ∧ 0 ≤ s.sync.currentFrame) ∨
       (RBlock s.sync.currentFrame B2 ∧ ∃ L, B2 = [.load (lastSaveOf s.sync.lastSavedFrame B1)] ++ L)) ∧
      ((G = [] ∧ s'.sync.currentFrame = s.sync.currentFrame) ∨
       (∃ ins, G = [.advance ins] ∧ s'.sync.currentFrame = s.sync.currentFrame + 1)) ∧
      s'.sync.lastSavedFrame = lastSaveOf s.sync.lastSavedFrame (B1 ++ B2) ∧
      s'.sync.cells = s.sync.cells ∧ s'.sparse = s.sparse := by
  obtain ⟨B1, B2, G, hL, hb1, hb2, hg, hls, hcl, hspp, _⟩ := tick_shape s s' now reqs reqs' h
  rw [hsp] at hb1
  refine ⟨B1, B2, G, hL, ?_, ?_, hg, hls, hcl, hspp⟩
  · rcases hb1 with he | ⟨r, hrb, hr⟩
    · exact Or.inl he
    · rw [hr rfl] at hrb
      exact Or.inr hrb.rblock
  · rcases hb2 with hsave | ⟨_, he | hrb⟩
    · exact Or.inr (Or.inl hsave)
    · exact Or.inl he
    · exact Or.inr (Or.inr hrb.rblock)

end Ggrs
