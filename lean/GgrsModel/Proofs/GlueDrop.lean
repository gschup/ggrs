/-
L-glue with dropped players: what the owner hands to its remote endpoints is still its own queue,
frame by frame, whoever has dropped.
-/
import GgrsModel.Proofs.DropWorld
import GgrsModel.Proofs.Glue

namespace Ggrs
open InputQueue

/-- The stream part of the ghost, as the glue invariant reads it. -/
def DGhost.g (gh : DGhost) : Ghost := ⟨gh.specs, gh.hists, gh.T⟩

/-- One local player's registration, the outgoing side — stated for whatever invariant provides the
queue facts of that player. -/
theorem registerOne_glueD (s s' : P2P) (gh : Ghost) (t0 : TLState) (reqs : List Request) (hd : Nat)
    (hcur0 : 0 ≤ s.sync.currentFrame) (hlen : s.localConnectStatus.length = s.sync.queues.length)
    (hqi : hd < s.sync.queues.length → ∃ H Tp, QI s.pred (rget s.sync.queues hd) (gh.specs hd) H Tp s.sync.currentFrame ∧
      Asked (rget s.sync.queues hd) s.sync.currentFrame)
    (hg : GlueInv s gh) (hloc : hd ∈ s.localPlayerHandles)
    (hreg : s.registerOne hd = .ok s') :
    ∃ pi, s.pendingInputOf hd = .ok pi ∧ 0 ≤ pi.frame ∧ GlueInv s' (ghAfter gh hd pi) ∧ s'.handles = s.handles ∧
      s'.lastSentOutgoingInputFrame = s.lastSentOutgoingInputFrame ∧
      s'.sync.queues.length = s.sync.queues.length := by
  refine registerOne_out s s' gh hd hcur0 hlen (fun hp _ _ _ hadd => ?_) hg hloc hreg
  obtain ⟨_, _, hq, ha⟩ := hqi hp
  exact (QI_add _ _ _ _ _ _ _ _ _ _ hq ha hadd).2.2

theorem SessInvD.localQueue {s : P2P} {gh : DGhost} {t0 : TLState} {reqs : List Request} {st0 : List ConnStatus}
    (h : SessInvD s gh t0 reqs st0) {p : Nat} (hloc : p ∈ s.localPlayerHandles) (hp : p < s.sync.queues.length) :
    ¬ gh.gone p ∧ QI s.pred (rget s.sync.queues p) (gh.specs p) (gh.hists p) (gh.T p) s.sync.currentFrame ∧
      Asked (rget s.sync.queues p) s.sync.currentFrame := by
  have hnd := h.localAlive p hloc
  obtain ⟨hng, hq⟩ := h.liveQI hp hnd
  exact ⟨hng, hq, h.asked p hp hnd⟩

theorem registerFold_glueD (t0 : TLState) (reqs : List Request) : ∀ (l : List Nat) (s s' : P2P) (gh : DGhost),
    SessInvD s gh t0 reqs s.localConnectStatus → GlueInv s gh.g → (∀ x ∈ l, x ∈ s.localPlayerHandles) →
    l.foldlM P2P.registerOne s = .ok s' →
    ∃ gh', SessInvD s' gh' t0 reqs s'.localConnectStatus ∧ GlueInv s' gh'.g ∧ RegKeepsD s s' gh gh' ∧
      s'.lastSentOutgoingInputFrame = s.lastSentOutgoingInputFrame ∧
      ∀ p, PrefixOf (gh.specs p).vals (gh'.specs p).vals := by
  intro l
  induction l with
  | nil =>
    intro s s' gh h hg _ hf
    cases pure_ok hf
    exact ⟨gh, h, hg, RegKeepsD.refl s gh, rfl, fun _ => PrefixOf.refl _⟩
  | cons a rest ih =>
    intro s s' gh h hg hl hf
    simp only [List.foldlM_cons] at hf
    obtain ⟨s1, h1, hf⟩ := bind_ok hf
    have hla := hl a List.mem_cons_self
    obtain ⟨gh1, hinv1, hk1, pi, hpi, hspecs⟩ := registerOne_keepsD s s1 gh t0 reqs a h hla h1
    obtain ⟨pi', hpi', _, hgl1, _, hls1, _⟩ := registerOne_glueD s s1 gh.g t0 reqs a h.tinv.sync.cur
      (by rw [h.marks.len]; exact h.tinv.sync.nq) (fun hp => ⟨_, _, (h.localQueue hla hp).2⟩) hg hla h1
    cases hpi.symm.trans hpi'
    have hs1 : gh1.g.specs = (ghAfter gh.g a pi).specs := hspecs
    obtain ⟨gh', hinv', hg', hk, hls, hpre⟩ := ih s1 s' gh1 hinv1 (GlueInv_transfer s1 s1 _ gh1.g hgl1 rfl rfl rfl rfl hs1)
      (fun x hx => by rw [P2P.localPlayerHandles_congr hk1.handles]; exact hl x (List.mem_cons_of_mem _ hx)) hf
    refine ⟨gh', hinv', hg', hk1.trans hk, hls.trans hls1, fun p => ?_⟩
    have h1p := ghAfter_prefix gh.g a pi p
    rw [← hs1] at h1p
    exact h1p.trans (hpre p)

theorem registerLocalInputs_glueD (s s' : P2P) (gh : DGhost) (t0 : TLState) (reqs : List Request) (now : Nat)
    (h : SessInvD s gh t0 reqs s.localConnectStatus) (hg : GlueInv s gh.g) (hreg : s.registerLocalInputs now = .ok s') :
    ∃ (gh' : DGhost) (s1 : P2P), SessInvD s' gh' t0 reqs s'.localConnectStatus ∧ GlueInv s' gh'.g ∧ RegKeepsD s s' gh gh' ∧
      s1.lastSentOutgoingInputFrame = s.lastSentOutgoingInputFrame ∧ Sends gh'.g now s1 s' ∧
      ∀ p, PrefixOf (gh.specs p).vals (gh'.specs p).vals := by
  obtain ⟨s1, hfold, hsend⟩ := P2P.registerLocalInputs_ok hreg
  obtain ⟨gh', hinv1, hg1, hk, hls, hpre⟩ := registerFold_glueD t0 reqs _ s s1 gh h hg (fun x hx => hx) hfold
  have hc := P2P.sendReady_sameCore _ _ _ hsend
  obtain ⟨hs, hg'⟩ := sendReady_glue s1 s' gh'.g now hg1 hsend
  have hinv' := SessInvD_congr s1 s' gh' t0 reqs _ hinv1 hc
  rw [← hc.statuses] at hinv'
  exact ⟨gh', s1, hinv', hg', hk.trans (RegKeepsD.of_sameCore hc gh'), hls, hs, hpre⟩

/-- The statement of `rollbackTick_glue` under `SessInvD`; along `XGInv_run` it gives
`C11_owner_sends_queue_drops`. -/
theorem rollbackTick_glueD (s s' : P2P) (gh : DGhost) (t0 : TLState) (reqs reqs' : List Request) (now : Nat)
    (st0 : List ConnStatus) (h : SessInvD s gh t0 reqs st0) (hg : GlueInv s gh.g)
    (hadv : s.advanceRollbackFrame now reqs = .ok (s', reqs')) :
    ∃ (gh2 gh' : DGhost) (sA sB : P2P), SessInvD s' gh' t0 reqs' s'.localConnectStatus ∧ GlueInv s' gh'.g ∧
      gh'.specs = gh2.specs ∧
      (∀ p, PrefixOf (gh.specs p).vals (gh2.specs p).vals) ∧
      sA.lastSentOutgoingInputFrame = s.lastSentOutgoingInputFrame ∧ Sends gh2.g now sA sB ∧
      s'.lastSentOutgoingInputFrame = sB.lastSentOutgoingInputFrame := by
  obtain ⟨confirmed, s1, reqs1, s2, sy3, s4, gh1, gh3, _, _, hrs, hsettled, _, hspec, _, hinv3, hsp3, _, _, _, hq3, _, hreg, _, _,
    hgate⟩ := advanceRollbackFrame_preGateD s s' gh t0 reqs reqs' now st0 h hadv
  obtain ⟨ho1, hl1⟩ := P2P.handleRollbackAndSave_out _ _ _ _ _ hrs
  have hc2 := P2P.sendConfirmed_sameCore _ _ _ _ hspec
  obtain ⟨ho2, hl2⟩ := P2P.sendConfirmed_out _ _ _ _ hspec
  have hst2 : s2.localConnectStatus = s.localConnectStatus := hc2.statuses.trans hsettled.statuses
  rw [← hst2] at hinv3
  -- up to here only the spectators were served: the outgoing queue, the statuses and the streams are those of `s`
  have hg3 : GlueInv ({ s2 with sync := sy3 } : P2P) gh3.g :=
    GlueInv_transfer s _ gh.g gh3.g hg (ho2.trans ho1) (hc2.handles.trans hsettled.rest.1) hst2 hq3
      (hsp3.trans hsettled.specs)
  obtain ⟨gh4, sA, hinv4, hg4, hk4, hlsA, hsends, hpre⟩ := registerLocalInputs_glueD _ s4 gh3 t0 reqs1 now hinv3 hg3 hreg
  obtain ⟨gh', hinv', hsp', _, hst', hh', _, hnq', _⟩ := rollbackGate_specD s4 s' gh4 t0 reqs1 reqs' hinv4 hgate
  obtain ⟨ho5, hl5⟩ := P2P.rollbackGate_out _ _ _ _ hgate
  refine ⟨gh4, gh', sA, s4, hinv', GlueInv_transfer s4 s' gh4.g gh'.g hg4 ho5 hh' hst' hnq' hsp', hsp', fun p => ?_, ?_,
    hsends, hl5⟩
  · rw [← hsettled.specs, ← hsp3]; exact hpre p
  · rw [hlsA]; exact hl2.trans hl1

theorem glue_remoteInputD (s s' : P2P) (gh : DGhost) (t : TLState) (st0 : List ConnStatus) (now : Nat) (inp : PlayerInput)
    (player : Nat) (handles : List Nat) (addr : Nat) (hy : SessInvD s gh t [] st0) (hgy : GlueInv s gh.g)
    (hnl : player ∉ s.localPlayerHandles) (hf : 0 ≤ inp.frame)
    (hev : s.handleEventCore now (.input inp player) handles addr = .ok s') :
    ∃ gh' st0', SessInvD s' gh' t [] st0' ∧ GlueInv s' gh'.g := by
  obtain ⟨gh', st0', h', _, _, _, hh, _, hnq, _, _, _, _, hsp⟩ :=
    remoteInput_specD s s' gh t [] st0 now inp player handles addr hy hnl hf hev
  obtain ⟨ho, _, hst⟩ := P2P.remoteInput_out s s' now inp player handles addr hev
  refine ⟨gh', st0', h', GlueInv_transferL s s' gh.g gh'.g hgy ho hh ?_ hnq ?_⟩
  · intro p hp
    exact hst p (fun e => hnl (e ▸ hp))
  · intro p hp
    exact hsp p (fun e => hnl (e ▸ hp))

theorem GlueInv_drop (s s' : P2P) (gh : Ghost) (eph : List Nat) (hg : GlueInv s gh)
    (hrem : ∀ g, g ∈ eph → g ∉ s.localPlayerHandles) (hsy : s'.sync = s.sync) (hh : s'.handles = s.handles)
    (hoth : ∀ g, g ∉ eph → rget s'.localConnectStatus g = rget s.localConnectStatus g)
    (hout : s'.outgoingLocalInputs = s.outgoingLocalInputs) : GlueInv s' gh :=
  GlueInv_transferL s s' gh gh hg hout hh (fun p hp => hoth p (fun hin => hrem p hin hp)) (by rw [hsy]) (fun _ _ => rfl)

def XGInv (x : P2P × TLState) : Prop := ∃ gh st0, SessInvD x.1 gh x.2 [] st0 ∧ GlueInv x.1 gh.g

theorem XGInv_step (x y : P2P × TLState) (h : XGInv x) (hs : XStep x y) : XGInv y := by
  obtain ⟨gh, st0, h, hg⟩ := h
  cases hs with
  | remoteInput s s' t now inp player handles addr hnl h0 hev =>
    exact glue_remoteInputD s s' gh t st0 now inp player handles addr h hg hnl h0 hev
  | tick s s' t now reqs' hadv =>
    obtain ⟨_, gh', _, _, h', hg', _⟩ := rollbackTick_glueD s s' gh t [] reqs' now st0 h hg hadv
    exact ⟨gh', _, SessInvD_rebase s' gh' t reqs' _ h', hg'⟩
  | localInput s t handle input =>
    obtain ⟨l, hl⟩ := P2P.addLocalInput_pending s handle input
    show XGInv ((s.addLocalInput handle input).1, t)
    rw [hl]
    exact ⟨gh, st0, SessInvD_pending s gh t [] st0 l h, GlueInv_pending s gh.g l hg⟩
  | saves s t sv => exact ⟨gh, st0, SessInvD_userExecute s gh t [] st0 sv h, GlueInv_userExecute s gh.g sv hg⟩
  | dropApi s s' t now handle addr ep hpt hep hrem hlt hl0 hsame hcall =>
    obtain ⟨hc', hdrop⟩ := P2P.disconnectPlayer_remote_ok hpt hcall
    obtain ⟨h', hsy, hh, _, _, _, _, _, hoth, hout, _⟩ := drop_specD s s' gh t [] st0 now handle addr _ ep h hpt hep hrem
      ⟨hlt, h.marks.alive hc', rfl⟩ hl0 hsame hdrop
    exact ⟨gh, st0, h', GlueInv_drop s s' gh.g ep.handles hg hrem hsy hh hoth hout⟩
  | dropEvent s s' t now addr hs ep L hpt hep hsub hrem hlt hconn hL0 hsame hev =>
    obtain ⟨s1, hfold, rfl⟩ := P2P.handleEventCore_disconnected_ok hev
    have cfg : DropCfg s hs addr ep.handles L st0 :=
      ⟨hpt, ⟨ep, hep, rfl⟩, hsub, hrem, hlt,
        fun x hx => ⟨h.marks.alive (hconn x hx), hsame x (hsub x hx) (hlt x hx).2 (hconn x hx)⟩, hL0, hsame⟩
    obtain ⟨h', hsy, hh, _, _, _, _, _, hoth, hout, _⟩ := dropFold_specD gh t [] st0 now addr ep.handles L hs s s1 h cfg hfold
    exact ⟨gh, st0, SessInvD_congr s1 _ gh t [] st0 h' (s1.pushEvent_sameCore _),
      GlueInv_drop s _ gh.g ep.handles hg hrem hsy hh hoth hout⟩
  | adopt s s' t now handle addr ep lf hpt hep hrem hl0 hlow hdead hdrop =>
    obtain ⟨h', hsy, hh, _, _, _, _, _, hoth, hout, _⟩ := drop_specG s s' gh t [] st0 now handle addr lf ep h hpt hep hrem hl0 hlow
      (fun g hg' hgg => hdead g hg' (h.marks.mono g (h.tinv.sync.gone g hg' hgg).dead)) hdrop
    exact ⟨gh, st0, h', GlueInv_drop s s' gh.g ep.handles hg hrem hsy hh hoth hout⟩

theorem XGInv_run (x y : P2P × TLState) (h : XGInv x) (hr : XStar x y) : XGInv y := by
  induction hr with
  | refl => exact h
  | step y z _ hs ih => exact XGInv_step y z ih hs

end Ggrs
