/-
`check_simulation_consistency`: the earliest first-incorrect frame over all queues.
-/
import GgrsModel.Model.P2P

namespace Ggrs.SyncLayer

/-- The fold of `check_simulation_consistency` over a list of queues. -/
def earliest (qs : List InputQueue) (init : Frame) : Frame :=
  qs.foldl (fun fi q =>
    let inc := q.firstIncorrectFrame
    if inc != NULL_FRAME && (fi == NULL_FRAME || inc < fi) then inc else fi) init

theorem earliest_cons (q : InputQueue) (qs : List InputQueue) (init : Frame) :
    earliest (q :: qs) init = earliest qs (earliest [q] init) := rfl

theorem earliest_single (q : InputQueue) (fi : Frame) :
    (earliest [q] fi = NULL_FRAME ↔ fi = NULL_FRAME ∧ q.firstIncorrectFrame = NULL_FRAME) ∧
    (fi ≠ NULL_FRAME → earliest [q] fi ≤ fi) ∧
    (q.firstIncorrectFrame ≠ NULL_FRAME → earliest [q] fi ≤ q.firstIncorrectFrame) ∧
    (earliest [q] fi = fi ∨ q.firstIncorrectFrame ≠ NULL_FRAME ∧ earliest [q] fi = q.firstIncorrectFrame) := by
  simp only [earliest, List.foldl_cons, List.foldl_nil, Bool.and_eq_true, bne_iff_ne, ne_eq, Bool.or_eq_true,
    beq_iff_eq, decide_eq_true_eq, NULL_FRAME]
  split
  · omega
  · omega

theorem earliest_min : ∀ (qs : List InputQueue) (init : Frame),
    (earliest qs init = NULL_FRAME ↔ init = NULL_FRAME ∧ ∀ q ∈ qs, q.firstIncorrectFrame = NULL_FRAME) ∧
    (init ≠ NULL_FRAME → earliest qs init ≤ init) ∧
    (∀ q ∈ qs, q.firstIncorrectFrame ≠ NULL_FRAME → earliest qs init ≤ q.firstIncorrectFrame) ∧
    (earliest qs init = init ∨
      ∃ q ∈ qs, q.firstIncorrectFrame ≠ NULL_FRAME ∧ earliest qs init = q.firstIncorrectFrame)
  | [], init => ⟨⟨fun h => ⟨h, fun _ hq => absurd hq List.not_mem_nil⟩, fun h => h.1⟩, fun _ => Int.le_refl _,
    fun _ hq => absurd hq List.not_mem_nil, Or.inl rfl⟩
  | q :: qs, init => by
    obtain ⟨h0, hi, hq, hm⟩ := earliest_single q init
    obtain ⟨ih0, ihi, ihq, ihm⟩ := earliest_min qs (earliest [q] init)
    rw [earliest_cons]
    refine ⟨?_, fun h => ?_, fun q' hq' hn => ?_, ?_⟩
    · rw [ih0, h0, List.forall_mem_cons, and_assoc]
    · exact Int.le_trans (ihi fun h' => h (h0.1 h').1) (hi h)
    · rcases List.mem_cons.mp hq' with rfl | hin
      · exact Int.le_trans (ihi fun h' => hn (h0.1 h').2) (hq hn)
      · exact ihq q' hin hn
    · rcases ihm with he | ⟨q', hin, hn, he⟩
      · rcases hm with h1 | ⟨hn, h1⟩
        · exact Or.inl (he.trans h1)
        · exact Or.inr ⟨q, List.mem_cons_self, hn, he.trans h1⟩
      · exact Or.inr ⟨q', List.mem_cons_of_mem _ hin, hn, he⟩

theorem earliest_spec (qs : List InputQueue) (init : Frame) :
    (earliest qs init = NULL_FRAME ↔ init = NULL_FRAME ∧ ∀ q ∈ qs, q.firstIncorrectFrame = NULL_FRAME) ∧
    (earliest qs init ≠ NULL_FRAME →
      (init ≠ NULL_FRAME → earliest qs init ≤ init) ∧
      (∀ q ∈ qs, q.firstIncorrectFrame ≠ NULL_FRAME → earliest qs init ≤ q.firstIncorrectFrame)) :=
  have ⟨h0, hi, hq, _⟩ := earliest_min qs init
  ⟨h0, fun _ => ⟨hi, hq⟩⟩

theorem checkSimulationConsistency_eq (s : SyncLayer) (init : Frame) :
    s.checkSimulationConsistency init = earliest s.queues init := rfl

end Ggrs.SyncLayer
