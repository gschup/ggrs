/-
L-delay with dropped players: `set_input_delay` for a local player as a step of the world with
drops (`XStep`). The resulting world `YStep` has every step of `SStep`, `DStep` and `XStep`.
-/
import GgrsModel.Proofs.GlueDrop
import GgrsModel.Proofs.DelayStep
import GgrsModel.Proofs.DropSpec

namespace Ggrs
open InputQueue

theorem delayFillLoop_fi (li : PlayerInput) : ∀ (n : Nat) (q q' : InputQueue) (fills fills' : List PlayerInput),
    delayFillLoop li n q fills = .ok (q', fills') →
    q'.firstIncorrectFrame = q.firstIncorrectFrame ∨ q.lastAddedFrame + 1 ≤ q'.firstIncorrectFrame := by
  intro n
  induction n with
  | zero => intro q q' f f' h; simp only [delayFillLoop] at h; cases h; exact Or.inl rfl
  | succ k ih =>
    intro q q' f f' h
    simp only [delayFillLoop] at h
    obtain ⟨q1, h1, h⟩ := bind_ok h
    obtain ⟨_, _, _, _, _, hla, hn, hp⟩ := addByFrame_fields q q1 li (q.lastAddedFrame + 1) h1
    have h1fi : q1.firstIncorrectFrame = q.firstIncorrectFrame ∨ q1.firstIncorrectFrame = q.lastAddedFrame + 1 := by
      by_cases hpf : q.prediction.frame = NULL_FRAME
      · exact Or.inl (hn hpf).2
      · have := (hp hpf).2.1
        rw [this]
        split
        · exact Or.inr rfl
        · exact Or.inl rfl
    rcases ih q1 q' _ f' h with h2 | h2
    · rcases h1fi with h3 | h3
      · exact Or.inl (h2.trans h3)
      · exact Or.inr (by rw [h2, h3]; exact Int.le_refl _)
    · exact Or.inr (by rw [hla] at h2; omega)

theorem setFrameDelay_fi (q q' : InputQueue) (d : Nat) (fills : List PlayerInput)
    (h : q.setFrameDelay d = .ok (q', fills)) :
    q'.firstIncorrectFrame = q.firstIncorrectFrame ∨ q.lastAddedFrame + 1 ≤ q'.firstIncorrectFrame := by
  by_cases hla : q.lastAddedFrame = NULL_FRAME
  · rw [InputQueue.setFrameDelay_blank d hla] at h
    rw [← (Prod.mk.inj (Except.ok.inj h)).1]
    exact Or.inl rfl
  · rw [InputQueue.setFrameDelay_started d hla] at h
    exact delayFillLoop_fi _ _ ({ q with frameDelay := d } : InputQueue) q' _ _ h

theorem setInputDelay_specD (s s' : P2P) (gh : DGhost) (t0 : TLState) (reqs : List Request) (st0 : List ConnStatus)
    (now handle delay : Nat) (r : Except GgrsError Unit)
    (h : SessInvD s gh t0 reqs st0) (hg : GlueInv s gh.g) (hloc : handle ∈ s.localPlayerHandles)
    (hp : handle < s.sync.queues.length) (hset : s.setInputDelay now handle delay = .ok (s', r)) :
    ∃ gh' st0', SessInvD s' gh' t0 reqs st0' ∧ GlueInv s' gh'.g ∧
      s'.sync.currentFrame = s.sync.currentFrame ∧ s'.sync.cells = s.sync.cells ∧ s'.sparse = s.sparse ∧
      s'.sync.lastSavedFrame = s.sync.lastSavedFrame ∧ s'.nextSpectatorFrame = s.nextSpectatorFrame ∧
      s'.disconnectFrame = s.disconnectFrame ∧ s'.sync.queues.length = s.sync.queues.length ∧
      (∀ p, (gh.specs p).vals.length ≤ (gh'.specs p).vals.length) ∧
      (∀ p, (rget s'.localConnectStatus p).disconnected = (rget s.localConnectStatus p).disconnected) ∧
      (∀ p, (rget s.localConnectStatus p).disconnected = true → rget s'.localConnectStatus p = rget s.localConnectStatus p) := by
  have hnd : (rget s.localConnectStatus handle).disconnected = false := h.localAlive handle hloc
  obtain ⟨hng, hq0, hask0⟩ := h.localQueue hloc hp
  have hpst : handle < s.localConnectStatus.length := by rw [h.marks.len, h.tinv.sync.nq]; exact hp
  rcases setInputDelay_out s s' gh.g now handle delay r hg hloc hp hpst
      (fun q' fl hq => (QI_setDelay s.pred _ q' _ _ _ _ delay fl hq0 hask0 hq).2.2) hset with
    rfl | ⟨q', hq, hc, hnsf, hg'⟩
  · exact ⟨gh, st0, h, hg, rfl, rfl, rfl, rfl, rfl, rfl, rfl, fun _ => Nat.le_refl _, fun _ => rfl, fun _ _ => rfl⟩
  obtain ⟨hqi, hask, _⟩ := QI_setDelay s.pred _ q' _ _ _ _ delay _ hq0 hask0 hq
  have htop : (rget s.localConnectStatus handle).lastFrame = ((gh.specs handle).vals.length : Int) - 1 := hg.top handle hloc hp
  have hgrow : (gh.specs handle).vals.length ≤ ((gh.specs handle).setDelay delay).1.vals.length := by
    have := (ghDelay_prefix gh.g handle delay handle).1
    rw [ghDelay_self] at this
    exact this
  have hupd := SessInvD_update s gh t0 reqs st0 h handle hp hnd q' ((gh.specs handle).setDelay delay).1
    ((((gh.specs handle).setDelay delay).1.vals.length : Int) - 1) hqi hask
    (by rw [htop]; omega)
    (by rw [lastAdded_of_QI hqi]; exact Int.le_refl _) (fun hc => absurd hloc hc)
    ((setFrameDelay_fi _ q' delay _ hq).imp_right fun hx => by
      have := h.status handle hp hng
      omega)
  rw [← connStatus_eta _ _ hnd] at hupd
  have hst : ∀ p, p ≠ handle → rget s'.localConnectStatus p = rget s.localConnectStatus p := fun p hpe => by
    rw [hc.statuses]; exact rget_rset_ne _ _ _ _ (fun e => hpe e.symm)
  refine ⟨_, _, SessInvD_congr _ s' _ t0 reqs _ hupd hc, hg', by rw [hc.sync], by rw [hc.sync], hc.sparse, by rw [hc.sync],
    hnsf, hc.disconnectFrame, by rw [hc.sync]; exact rset_length _ _ _, fun p => (ghDelay_prefix gh.g handle delay p).1,
    fun p => ?_, fun p hdp => hst p (fun e => by rw [e, hnd] at hdp; cases hdp)⟩
  by_cases hpe : p = handle
  · rw [hpe, hc.statuses, rget_rset_eq _ _ _ hpst]
  · rw [hst p hpe]

inductive YStep : (P2P × TLState) → (P2P × TLState) → Prop
  | base (x y : P2P × TLState) : XStep x y → YStep x y
  | setDelay (s s' : P2P) (t : TLState) (now handle delay : Nat) (r : Except GgrsError Unit) :
      handle ∈ s.localPlayerHandles → handle < s.sync.queues.length →
      s.setInputDelay now handle delay = .ok (s', r) → YStep (s, t) (s', t)

inductive YStar : (P2P × TLState) → (P2P × TLState) → Prop
  | refl (x : P2P × TLState) : YStar x x
  | step (x y z : P2P × TLState) : YStar x y → YStep y z → YStar x z

def YInv (x : P2P × TLState) : Prop := XGInv x ∧ 0 ≤ x.1.nextSpectatorFrame

theorem YInv.xinv {x : P2P × TLState} (h : YInv x) : XInv x := by
  obtain ⟨⟨gh, st0, hs, _⟩, _⟩ := h
  exact ⟨gh, st0, hs⟩

theorem YInv_step (x y : P2P × TLState) (h : YInv x) (hs : YStep x y) : YInv y := by
  cases hs with
  | base _ _ hx => exact ⟨XGInv_step x y h.1 hx, Int.le_trans h.2 hx.nsf_le⟩
  | setDelay s s' t now handle delay r hloc hp hset =>
    obtain ⟨⟨gh, st0, hs, hg⟩, hn⟩ := h
    obtain ⟨gh', st0', h', hg', _, _, _, _, hnsf, _⟩ := setInputDelay_specD s s' gh t [] st0 now handle delay r hs hg hloc hp hset
    exact ⟨⟨gh', st0', h', hg'⟩, by show 0 ≤ s'.nextSpectatorFrame; rw [hnsf]; exact hn⟩

theorem YInv_run (x y : P2P × TLState) (h : YInv x) (hr : YStar x y) : YInv y := by
  induction hr with
  | refl => exact h
  | step y z _ hs ih => exact YInv_step y z ih hs

theorem YStar_of_DStar (x y : P2P × TLState) (h : DStar x y) : YStar x y := by
  induction h with
  | refl => exact YStar.refl _
  | step y z _ hs ih =>
    refine YStar.step _ y z ih ?_
    cases hs with
    | base _ _ hss => exact YStep.base _ _ (XStep_of_SStep hss)
    | setDelay s s' t now handle delay r hloc hp hset => exact YStep.setDelay s s' t now handle delay r hloc hp hset

end Ggrs
