/-
L-pair, lockstep: two lockstep sessions (prediction window 0) side by side, constructed as in
`Proofs/Pair.lean`. Every row either game has simulated is the full row of the owners' real inputs —
lockstep never simulates a frame before everybody's input for it is there —, so the two timelines
coincide on every frame both have simulated (`lkpair_agree`).
-/
import GgrsModel.Proofs.Pair
import GgrsModel.Proofs.LockstepNet

namespace Ggrs
open InputQueue

inductive LkHalf : (P2P × TLState) → (P2P × TLState) → (P2P × TLState) → Prop
  | localInput (s : P2P) (t : TLState) (b : P2P × TLState) (handle : Nat) (input : Input) :
      LkHalf (s, t) b ((s.addLocalInput handle input).1, t)
  | tick (s s' : P2P) (t : TLState) (b : P2P × TLState) (now : Nat) (reqs' : List Request) :
      s.advanceLockstepFrame now [] = .ok (s', reqs') → LkHalf (s, t) b (s', execReqs t reqs')
  | arrive (s s' : P2P) (t : TLState) (b : P2P × TLState) (now : Nat) (f : Nat) (v : Input) (player : Nat)
      (handles : List Nat) (addr : Nat) :
      player ∈ b.1.localPlayerHandles → player ∉ s.localPlayerHandles →
      player < b.1.sync.queues.length → player < s.sync.queues.length →
      (f : Int) = (rget s.localConnectStatus player).lastFrame + 1 →
      (f : Int) ≤ (rget b.1.sync.queues player).lastAddedFrame →
      (rget b.1.sync.queues player).lastAddedFrame < (f : Int) + INPUT_QUEUE_LENGTH →
      rget (rget b.1.sync.queues player).inputs (f % INPUT_QUEUE_LENGTH) = ⟨(f : Int), v⟩ →
      s.handleEventCore now (.input ⟨(f : Int), v⟩ player) handles addr = .ok s' →
      LkHalf (s, t) b (s', t)

inductive LkPStep : ((P2P × TLState) × (P2P × TLState)) → ((P2P × TLState) × (P2P × TLState)) → Prop
  | left (a a' b : P2P × TLState) : LkHalf a b a' → LkPStep (a, b) (a', b)
  | right (a b b' : P2P × TLState) : LkHalf b a b' → LkPStep (a, b) (a, b')

inductive LkPStar : ((P2P × TLState) × (P2P × TLState)) → ((P2P × TLState) × (P2P × TLState)) → Prop
  | refl (x) : LkPStar x x
  | step (x y z) : LkPStar x y → LkPStep y z → LkPStar x z

structure LkPairInv (a b : P2P × TLState) (ghA ghB : Ghost) : Prop where
  la : LkInv a.1 ghA a.2
  ga : GlueInv a.1 ghA
  na : 0 ≤ a.1.nextSpectatorFrame
  lb : LkInv b.1 ghB b.2
  gb : GlueInv b.1 ghB
  nb : 0 ≤ b.1.nextSpectatorFrame
  ab : LinkRel a.1 b.1 ghA ghB
  ba : LinkRel b.1 a.1 ghB ghA

theorem LkPairInv.symm {a b : P2P × TLState} {ghA ghB : Ghost} (h : LkPairInv a b ghA ghB) : LkPairInv b a ghB ghA :=
  ⟨h.lb, h.gb, h.nb, h.la, h.ga, h.na, h.ba, h.ab⟩

theorem lkhalf_inv (a b a' : P2P × TLState) (ghA ghB : Ghost) (h : LkPairInv a b ghA ghB) (hs : LkHalf a b a') :
    ∃ ghA', LkPairInv a' b ghA' ghB := by
  cases hs with
  | localInput s t b handle input =>
    obtain ⟨l, hl⟩ := P2P.addLocalInput_pending s handle input
    refine ⟨ghA, ?_⟩
    show LkPairInv ((s.addLocalInput handle input).1, t) b ghA ghB
    rw [hl]
    exact ⟨h.la.pending l, GlueInv_pending s ghA l h.ga, h.na, h.lb, h.gb, h.nb, h.ab, h.ba⟩
  | tick s s' t b now reqs' hadv =>
    obtain ⟨gh1, gh', _, _, _, _, hl', hg', hn', hsp, hpre, _, _, _, _, _, _, hoth, hh⟩ :=
      lockstepTick_netX s s' ghA t now reqs' h.la h.ga h.na hadv
    have k := linkrel_keep s s' b.1 ghA gh' ghB (P2P.localPlayerHandles_congr hh) h.ab h.ba (fun p _ hn => hoth p hn)
      (fun p _ => hsp ▸ hpre p)
    exact ⟨gh', hl', hg', hn', h.lb, h.gb, h.nb, k.1, k.2⟩
  | arrive s s' t b now f v player handles addr hown hnl hpb hps hnext hle hwin hslot hev =>
    obtain ⟨gh', hinv', hg', _, hgrow, hh, hsp⟩ :=
      glue_remoteInputX s s' ghA t now ⟨(f : Int), v⟩ player handles addr h.la.sess h.ga hnl (Int.natCast_nonneg _) hev
    obtain ⟨hab, hba⟩ := linkrel_arrive s s' b.1 t b.2 ghA gh' ghB f v player h.la.sess h.lb.sess h.ab h.ba hnl hpb hps
      hnext hle hwin hslot hh hsp
    have hnsf : s'.nextSpectatorFrame = s.nextSpectatorFrame := P2P.remoteInput_nsf s s' now _ player handles addr hev
    exact ⟨gh', h.la.remoteInput hev hinv' hgrow, hg', by rw [hnsf]; exact h.na, h.lb, h.gb, h.nb, hab, hba⟩

def LkPPInv (x : (P2P × TLState) × (P2P × TLState)) : Prop := ∃ ghA ghB, LkPairInv x.1 x.2 ghA ghB

theorem LkPPInv_step (x y : (P2P × TLState) × (P2P × TLState)) (h : LkPPInv x) (hs : LkPStep x y) : LkPPInv y := by
  obtain ⟨ghA, ghB, h⟩ := h
  cases hs with
  | left a a' b hh =>
    obtain ⟨ghA', h'⟩ := lkhalf_inv a b a' ghA ghB h hh
    exact ⟨ghA', ghB, h'⟩
  | right a b b' hh =>
    obtain ⟨ghB', h'⟩ := lkhalf_inv b a b' ghB ghA h.symm hh
    exact ⟨ghA, ghB', h'.symm⟩

theorem LkPPInv_run (x y : (P2P × TLState) × (P2P × TLState)) (h : LkPPInv x) (hr : LkPStar x y) : LkPPInv y := by
  induction hr with
  | refl => exact h
  | step y z _ hs ih => exact LkPPInv_step y z ih hs

/-- Two lockstep sessions after any run: every frame both have simulated carries, for every player
owned by one of them, the same input in both games' timelines — the owner's. -/
theorem lkpair_agree (x y : (P2P × TLState) × (P2P × TLState)) (h0 : LkPPInv x) (hrun : LkPStar x y) :
    ∀ p, ((p ∈ y.1.1.localPlayerHandles ∧ p ∉ y.2.1.localPlayerHandles) ∨
          (p ∈ y.2.1.localPlayerHandles ∧ p ∉ y.1.1.localPlayerHandles)) →
      p < y.1.1.sync.queues.length → p < y.2.1.sync.queues.length → ∀ f : Nat,
      (f : Int) < y.1.1.sync.currentFrame → (f : Int) < y.2.1.sync.currentFrame →
      ((y.1.2.R f).getD p default).1 = ((y.2.2.R f).getD p default).1 := by
  obtain ⟨ghA, ghB, h⟩ := LkPPInv_run x y h0 hrun
  intro p hown hpA hpB f hfA hfB
  have tA := h.la.timeline f hfA
  have tB := h.lb.timeline f hfB
  have fullA : f < (ghA.specs p).vals.length := by have := h.la.full p hpA; omega
  have fullB : f < (ghB.specs p).vals.length := by have := h.lb.full p hpB; omega
  rw [tA, tB, rowOf_getD ghA _ f p hpA, rowOf_getD ghB _ f p hpB]
  show (ghA.specs p).vals.getD f 0 = (ghB.specs p).vals.getD f 0
  rcases hown with ⟨ha, hnb⟩ | ⟨hb, hna⟩
  · exact ((h.ba p ha hnb).2 f fullB)
  · exact ((h.ab p hb hna).2 f fullA).symm

end Ggrs
