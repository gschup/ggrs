/-
L-entry with drops: a successful call of `advanceFrameCore` (what `advance_frame` runs after polling)
in rollback mode is a path of the world with drops: the desync bookkeeping, one `adopt` step for
every cut-off that `update_player_disconnects` adopts from the running endpoints' gossip — provided
each is one the world allows (`UpdOK`; a cut-off earlier than the last frame of a player already
marked is the finding of C10) —, the call's core, the wait recommendation.
-/
import GgrsModel.Proofs.DropGame
import GgrsModel.Proofs.EntryPoint
import GgrsModel.Proofs.Calls

namespace Ggrs

/-- The running endpoints' reports tell the session nothing it has not already settled. -/
def QuietGossip (s : P2P) : Prop :=
  ∀ h, (P2P.gossipOf s.remotes h).1 = true ∨
    ((rget s.localConnectStatus h).disconnected = true ∧
      (rget s.localConnectStatus h).lastFrame ≤ (P2P.gossipOf s.remotes h).2)

theorem NoGossip.quiet {s : P2P} (h : NoGossip s) : QuietGossip s := fun x => Or.inl (h x)

theorem CXStar.trans {G : Type} {step : G → List (Input × InputStatus) → G} {csf : G → Option Nat}
    {a b c : P2P × GS G} (h1 : CXStar step csf a b) (h2 : CXStar step csf b c) : CXStar step csf a c := by
  induction h2 with
  | refl => exact h1
  | step b c _ hs ih => exact CXStar.step _ _ _ ih hs

theorem adopts_quiet {a : P2P} (hq : QuietGossip a) (h : Nat) : adopts a h = false := by
  unfold adopts adoptFrame
  rcases hq h with hx | ⟨hd, hle⟩
  · simp [hx]
  · simp only [hd, Bool.not_true, Bool.false_eq_true, if_false, Bool.false_or]
    have : ¬ ((rget a.localConnectStatus h).lastFrame > (P2P.gossipOf a.remotes h).2) := by omega
    simp [this]

theorem updatePlayerDisconnects_quiet (s : P2P) (now : Nat) (h : QuietGossip s) :
    s.updatePlayerDisconnects now = .ok s :=
  updatePlayerDisconnects_skip s now (adopts_quiet h)

/-- Every adoption `update_player_disconnects` makes along its walk over the players satisfies the
premises of the `adopt` step of the world. -/
inductive UpdOK (now : Nat) : List Nat → P2P → Prop
  | nil (a : P2P) : UpdOK now [] a
  | skip (a : P2P) (h : Nat) (hs : List Nat) : adopts a h = false → UpdOK now hs a → UpdOK now (h :: hs) a
  | adopt (a : P2P) (h : Nat) (hs : List Nat) (addr : Nat) (ep : Endpoint) : adopts a h = true →
      a.playerType h = some (.remote addr) → P2P.findEp a.remotes addr = some ep →
      (∀ g, g ∈ ep.handles → g ∉ a.localPlayerHandles) → -1 ≤ adoptFrame a h →
      (∀ g, g ∈ ep.handles → g < a.sync.queues.length → (rget a.localConnectStatus g).disconnected = false →
        adoptFrame a h ≤ (rget a.localConnectStatus g).lastFrame) →
      (∀ g, g < a.sync.queues.length → (rget a.localConnectStatus g).disconnected = true →
        (rget a.localConnectStatus g).lastFrame ≤ adoptFrame a h) →
      (∀ a', a.disconnectPlayerAtFrame now h (adoptFrame a h) = .ok a' → UpdOK now hs a') → UpdOK now (h :: hs) a

theorem UpdOK_of_quiet (now : Nat) : ∀ (hs : List Nat) (a : P2P), QuietGossip a → UpdOK now hs a := by
  intro hs
  induction hs with
  | nil => intro a _; exact UpdOK.nil a
  | cons h rest ih =>
    intro a hq
    exact UpdOK.skip a h rest (adopts_quiet hq h) (ih a hq)

/-- `update_player_disconnects` is a path of the world, as long as every adoption it makes is one
the world allows. -/
theorem upd_is_path {G : Type} (step : G → List (Input × InputStatus) → G) (csf : G → Option Nat) (now : Nat) (x : GS G) :
    ∀ (hs : List Nat) (a a' : P2P), UpdOK now hs a →
    hs.foldlM (fun s handle => do
      let (queueConnected, queueMin) := P2P.gossipOf s.remotes handle
      let lc := rget s.localConnectStatus handle
      let localConnected := !lc.disconnected
      let queueMin := if localConnected then min queueMin lc.lastFrame else queueMin
      if !queueConnected && (localConnected || lc.lastFrame > queueMin) then
        s.disconnectPlayerAtFrame now handle queueMin
      else pure s) a = .ok a' →
    CXStar step csf (a, x) (a', x) ∧ a'.sync = a.sync ∧ a'.maxPrediction = a.maxPrediction ∧ a'.sparse = a.sparse := by
  intro hs
  induction hs with
  | nil =>
    intro a a' _ hf
    simp only [List.foldlM_nil] at hf
    have := pure_ok hf; subst this
    exact ⟨CXStar.refl _, rfl, rfl, rfl⟩
  | cons h rest ih =>
    intro a a' hok hf
    simp only [List.foldlM_cons] at hf
    obtain ⟨a1, h1, hf⟩ := bind_ok hf
    replace h1 := (updIter a now h).symm.trans h1
    cases hok with
    | skip _ _ _ hn hrest =>
      rw [hn] at h1
      cases h1
      exact ih a a' hrest hf
    | adopt _ _ _ addr ep hy hpt hep hrem hl0 hlow hdead hnext =>
      rw [hy] at h1
      have hcall : a.disconnectPlayerAtFrame now h (adoptFrame a h) = .ok a1 := h1
      obtain ⟨hpath, hs2, hm2, hsp2⟩ := ih a1 a' (hnext a1 hcall) hf
      have hstep := XStep.adopt a a1 ⟨x.cur, x.R⟩ now h addr ep _ hpt hep hrem hl0 hlow hdead hcall
      -- the adoption leaves sync layer, window and saving mode alone
      obtain ⟨_, _, _, _, _, rfl⟩ := P2P.disconnectAt_frame a a1 now h _ hcall
      exact ⟨CXStar.trans (CXStar.step _ _ _ (CXStar.refl _) (CXStep.net a _ x hstep rfl rfl rfl rfl)) hpath, hs2, hm2, hsp2⟩

theorem desync_pathD {G : Type} (step : G → List (Input × InputStatus) → G) (csf : G → Option Nat)
    (s s1 : P2P) (x : GS G) (now : Nat) (h : s.desyncPhase now = .ok s1) : CXStar step csf (s, x) (s1, x) := by
  rcases P2P.desyncPhase_ok h with rfl | ⟨sr, hrep, rfl⟩
  · exact CXStar.refl _
  · exact CXStar.step _ _ _ (CXStar.step _ _ _ (CXStar.refl _) (CXStep.report s sr x now hrep)) (CXStep.compare sr x)

/-- The desync bookkeeping leads to `s1`, `update_player_disconnects` on to `sm` (on the very first
call, where the extra save of frame 0 sits in between, it adopts nothing and `sm` is `s1`). -/
theorem call_path {G : Type} (step : G → List (Input × InputStatus) → G) (csf : G → Option Nat)
    (s s' : P2P) (x : GS G) (now : Nat) (reqs' : List Request)
    (hmp : (s.maxPrediction == 0) = false)
    (hng : ∀ s1, s.desyncPhase now = .ok s1 →
      (s1.sync.currentFrame = 0 → QuietGossip s1) ∧ UpdOK now (List.range s1.numPlayers) s1)
    (hcall : s.advanceFrameCore now = .ok (s', .ok reqs')) :
    ∃ s1 sm s3 : P2P, s.desyncPhase now = .ok s1 ∧ s1.updatePlayerDisconnects now = .ok sm ∧
      CXStar step csf (s, x) (s1, x) ∧ P2P.SameCore s s1 ∧ CXStar step csf (s1, x) (sm, x) ∧ sm.sync = s1.sync ∧
      P2P.SameCore s3 s' ∧
      (sm.advanceRollbackFrame now [] = .ok (s3, reqs') ∨
       ∃ sy r, sm.sync.currentFrame = 0 ∧ sm.sync.saveCurrentState = .ok (sy, r) ∧
         ({ sm with sync := sy } : P2P).advanceRollbackFrame now [r] = .ok (s3, reqs')) ∧
      CXStar step csf (s, x)
        (s'.userExecute (gameSaves step csf s.sync.cells.length x reqs'), execGs step s.sync.cells.length x reqs') := by
  obtain ⟨s1, s2, reqs0, sm, s3, hdes, hfs, hupd, hadv, hwait⟩ := P2P.advanceFrameCore_ok hcall
  have hp1 := desync_pathD step csf s s1 x now hdes
  have hc1 := (desyncPhase_fields s s1 now hdes).1
  obtain ⟨hq0, hok⟩ := hng s1 hdes
  have hmp1 : (s1.maxPrediction == 0) = false := by rw [hc1.maxPrediction]; exact hmp
  have hw := waitRec_userExecute s3 s' (gameSaves step csf s.sync.cells.length x reqs') hwait
  -- the call's core is a step from the state `m` the adoptions lead to
  suffices ∃ m : P2P, s1.updatePlayerDisconnects now = .ok m ∧ CXStar step csf (s1, x) (m, x) ∧ m.sync = s1.sync ∧
      (m.advanceRollbackFrame now [] = .ok (s3, reqs') ∨
       ∃ sy r, m.sync.currentFrame = 0 ∧ m.sync.saveCurrentState = .ok (sy, r) ∧
         ({ m with sync := sy } : P2P).advanceRollbackFrame now [r] = .ok (s3, reqs')) ∧
      CXStep step csf (m, x)
        (s3.userExecute (gameSaves step csf m.sync.cells.length x reqs'), execGs step m.sync.cells.length x reqs') by
    obtain ⟨m, hm, hp2, hsy, hform, hcore⟩ := this
    rw [hsy, hc1.sync] at hcore
    exact ⟨s1, m, s3, hdes, hm, hp1, hc1, hp2, hsy, (waitRec_fields s3 s' hwait).1, hform,
      CXStar.step _ _ _ (CXStar.step _ _ _ (hp1.trans hp2) hcore) (CXStep.waitRec _ _ _ hw)⟩
  rcases P2P.firstSavePhase_ok hfs with ⟨rfl, rfl, _⟩ | ⟨hc0, sy, r, hsv, rfl, rfl⟩
  · unfold P2P.updatePlayerDisconnects at hupd
    obtain ⟨hp2, hsy, hm2, _⟩ := upd_is_path step csf now x _ s2 sm hok hupd
    rw [P2P.advanceByMode_rollback (by rw [hm2]; exact hmp1)] at hadv
    exact ⟨sm, hupd, hp2, hsy, Or.inl hadv, CXStep.tick sm s3 x now reqs' hadv⟩
  · have hq : QuietGossip ({ s1 with sync := sy } : P2P) := hq0 hc0
    rw [updatePlayerDisconnects_quiet _ now hq] at hupd
    cases hupd
    rw [P2P.advanceByMode_rollback (s := { s1 with sync := sy }) hmp1] at hadv
    exact ⟨s1, updatePlayerDisconnects_quiet s1 now (hq0 hc0), CXStar.refl _, rfl, Or.inr ⟨sy, r, hc0, hsv, hadv⟩,
      CXStep.tick0 s1 s3 x now sy r reqs' hc0 hsv hadv⟩

/-- The entry point is a path of the world with drops, gossip included: provided every adoption is
one the world allows (`UpdOK`), and on the very first call (frame 0, where the extra save sits
between the two) none is made. -/
theorem call_is_pathG {G : Type} (step : G → List (Input × InputStatus) → G) (csf : G → Option Nat)
    (s s' : P2P) (x : GS G) (now : Nat) (reqs' : List Request)
    (hmp : (s.maxPrediction == 0) = false)
    (hng : ∀ s1, s.desyncPhase now = .ok s1 →
      (s1.sync.currentFrame = 0 → QuietGossip s1) ∧ UpdOK now (List.range s1.numPlayers) s1)
    (hcall : s.advanceFrameCore now = .ok (s', .ok reqs')) :
    CXStar step csf (s, x)
      (s'.userExecute (gameSaves step csf s.sync.cells.length x reqs'), execGs step s.sync.cells.length x reqs') ∧
    ∃ sm s3 : P2P, CXStar step csf (s, x) (sm, x) ∧ sm.sync.cells.length = s.sync.cells.length ∧ P2P.SameCore s3 s' ∧
      (sm.advanceRollbackFrame now [] = .ok (s3, reqs') ∨
       ∃ sy r, sm.sync.currentFrame = 0 ∧ sm.sync.saveCurrentState = .ok (sy, r) ∧
         ({ sm with sync := sy } : P2P).advanceRollbackFrame now [r] = .ok (s3, reqs')) := by
  obtain ⟨s1, sm, s3, _, _, hp1, hc1, hp2, hsy, hc3, hform, hall⟩ := call_path step csf s s' x now reqs' hmp hng hcall
  exact ⟨hall, sm, s3, hp1.trans hp2, by rw [hsy, hc1.sync], hc3, hform⟩

/-- `call_is_pathG` under `QuietGossip`: nothing is adopted, and the call's core runs from the state
`s1` the desync bookkeeping leads to. -/
theorem call_is_pathD {G : Type} (step : G → List (Input × InputStatus) → G) (csf : G → Option Nat)
    (s s' : P2P) (x : GS G) (now : Nat) (reqs' : List Request)
    (hmp : (s.maxPrediction == 0) = false)
    (hng : ∀ s1, s.desyncPhase now = .ok s1 → QuietGossip s1)
    (hcall : s.advanceFrameCore now = .ok (s', .ok reqs')) :
    CXStar step csf (s, x)
      (s'.userExecute (gameSaves step csf s.sync.cells.length x reqs'), execGs step s.sync.cells.length x reqs') ∧
    ∃ s1 s3 : P2P, CXStar step csf (s, x) (s1, x) ∧ P2P.SameCore s s1 ∧ P2P.SameCore s3 s' ∧
      (s1.advanceRollbackFrame now [] = .ok (s3, reqs') ∨
       ∃ sy r, s1.sync.currentFrame = 0 ∧ s1.sync.saveCurrentState = .ok (sy, r) ∧
         ({ s1 with sync := sy } : P2P).advanceRollbackFrame now [r] = .ok (s3, reqs')) := by
  obtain ⟨s1, sm, s3, hdes, hupd, hp1, hc1, _, _, hc3, hform, hall⟩ := call_path step csf s s' x now reqs' hmp
    (fun s1 h => ⟨fun _ => hng s1 h, UpdOK_of_quiet now _ s1 (hng s1 h)⟩) hcall
  rw [updatePlayerDisconnects_quiet s1 now (hng s1 hdes)] at hupd
  cases hupd
  exact ⟨hall, s1, s3, hp1, hc1, hc3, hform⟩

end Ggrs
