/-
L-pair: two rollback-mode sessions with their games' timelines, next to each other. "What has arrived
at a peer is a prefix of what the owner submitted" is derived along the run (`PairInv`) instead of
being assumed: `pair_agree` is `C01_agree_given_links` without its hypothesis. An arrival from the
other peer (`Half.arrive`) is the next frame with what the owner's ring holds for it at this moment:
the owner hands its queue to `send_input` frame by frame (`C11_owner_sends_queue`), and the receiving
endpoint raises the sender's frames in order without gap (`C05_stream_intact`).
-/
import GgrsModel.Proofs.Glue
import GgrsModel.Proofs.DelayStep

namespace Ggrs
open InputQueue

/-- `a` moves to `a'` next to the peer `b`. -/
inductive Half : (P2P × TLState) → (P2P × TLState) → (P2P × TLState) → Prop
  | localInput (s : P2P) (t : TLState) (b : P2P × TLState) (handle : Nat) (input : Input) :
      Half (s, t) b ((s.addLocalInput handle input).1, t)
  | saves (s : P2P) (t : TLState) (b : P2P × TLState) (sv : List (Frame × Option Nat)) :
      Half (s, t) b (s.userExecute sv, t)
  | tick (s s' : P2P) (t : TLState) (b : P2P × TLState) (now : Nat) (reqs' : List Request) :
      s.advanceRollbackFrame now [] = .ok (s', reqs') → Half (s, t) b (s', execReqs t reqs')
  | setDelay (s s' : P2P) (t : TLState) (b : P2P × TLState) (now handle delay : Nat) (r : Except GgrsError Unit) :
      handle ∈ s.localPlayerHandles → handle < s.sync.queues.length →
      s.setInputDelay now handle delay = .ok (s', r) → Half (s, t) b (s', t)
  /-- the next frame of a player of the other peer arrives, carrying what the owner's queue holds -/
  | arrive (s s' : P2P) (t : TLState) (b : P2P × TLState) (now : Nat) (f : Nat) (v : Input) (player : Nat)
      (handles : List Nat) (addr : Nat) :
      player ∈ b.1.localPlayerHandles → player ∉ s.localPlayerHandles →
      player < b.1.sync.queues.length → player < s.sync.queues.length →
      (f : Int) = (rget s.localConnectStatus player).lastFrame + 1 →
      (f : Int) ≤ (rget b.1.sync.queues player).lastAddedFrame →
      (rget b.1.sync.queues player).lastAddedFrame < (f : Int) + INPUT_QUEUE_LENGTH →
      rget (rget b.1.sync.queues player).inputs (f % INPUT_QUEUE_LENGTH) = ⟨(f : Int), v⟩ →
      s.handleEventCore now (.input ⟨(f : Int), v⟩ player) handles addr = .ok s' →
      Half (s, t) b (s', t)

  /-- an input of a player that neither session owns (a third peer's): any frame, any value -/
  | arriveOther (s s' : P2P) (t : TLState) (b : P2P × TLState) (now : Nat) (inp : PlayerInput) (player : Nat)
      (handles : List Nat) (addr : Nat) :
      player ∉ s.localPlayerHandles → player ∉ b.1.localPlayerHandles → 0 ≤ inp.frame →
      s.handleEventCore now (.input inp player) handles addr = .ok s' → Half (s, t) b (s', t)

inductive PStep : ((P2P × TLState) × (P2P × TLState)) → ((P2P × TLState) × (P2P × TLState)) → Prop
  | left (a a' b : P2P × TLState) : Half a b a' → PStep (a, b) (a', b)
  | right (a b b' : P2P × TLState) : Half b a b' → PStep (a, b) (a, b')

inductive PStar : ((P2P × TLState) × (P2P × TLState)) → ((P2P × TLState) × (P2P × TLState)) → Prop
  | refl (x) : PStar x x
  | step (x y z) : PStar x y → PStep y z → PStar x z

/-- What the receiver `r` holds of the players the owner `o` owns is a prefix of the owner's streams. -/
def LinkRel (r o : P2P) (ghR ghO : Ghost) : Prop :=
  ∀ p, p ∈ o.localPlayerHandles → p ∉ r.localPlayerHandles → PrefixOf (ghR.specs p).vals (ghO.specs p).vals

/-- The invariant of the pair, for explicit ghosts. -/
structure PairInv (a b : P2P × TLState) (ghA ghB : Ghost) : Prop where
  sa : SessInv a.1 ghA a.2 []
  ga : GlueInv a.1 ghA
  sb : SessInv b.1 ghB b.2 []
  gb : GlueInv b.1 ghB
  ab : LinkRel a.1 b.1 ghA ghB
  ba : LinkRel b.1 a.1 ghB ghA

theorem PairInv.symm {a b : P2P × TLState} {ghA ghB : Ghost} (h : PairInv a b ghA ghB) : PairInv b a ghB ghA :=
  ⟨h.sb, h.gb, h.sa, h.ga, h.ba, h.ab⟩

theorem prefixOf_snoc (a b : List Input) (v : Input) (h : PrefixOf a b) (hlt : a.length < b.length)
    (hv : b.getD a.length 0 = v) : PrefixOf (a ++ [v]) b := by
  refine ⟨by rw [List.length_append, List.length_singleton]; exact hlt, ?_⟩
  intro f hf
  rw [List.length_append, List.length_singleton] at hf
  by_cases hfa : f < a.length
  · rw [h.2 f hfa, getD_append_lt a v f hfa]
  · have : f = a.length := by omega
    subst this
    rw [hv, getD_append_eq]

theorem prefixOf_append (a l : List Input) : PrefixOf a (a ++ l) := PrefixOf_append a l

theorem submit_next (sp : QSpec) (v : Input) (hd : sp.delay = 0) (hl : (sp.vals.length : Int) = sp.lastUser + 1) :
    (sp.submit (sp.vals.length : Int) v).1.vals = sp.vals ++ [v] := by
  rw [QSpec.submit_seq v (Or.inr hl), hd, Int.natCast_zero, Int.add_zero, if_neg (Int.lt_irrefl _), Int.sub_self]
  exact congrArg (· ++ [v]) (List.append_nil _)

theorem linkrel_keep (s s' x : P2P) (ghS ghS' ghX : Ghost) (hlp : s'.localPlayerHandles = s.localPlayerHandles)
    (hab : LinkRel s x ghS ghX) (hba : LinkRel x s ghX ghS)
    (hun : ∀ p, p ∈ x.localPlayerHandles → p ∉ s.localPlayerHandles → ghS'.specs p = ghS.specs p)
    (hpre : ∀ p, p ∈ s.localPlayerHandles → PrefixOf (ghS.specs p).vals (ghS'.specs p).vals) :
    LinkRel s' x ghS' ghX ∧ LinkRel x s' ghX ghS' := by
  refine ⟨?_, ?_⟩
  · intro p hp hn
    have hn' : p ∉ s.localPlayerHandles := by rw [← hlp]; exact hn
    show PrefixOf (ghS'.specs p).vals (ghX.specs p).vals
    rw [hun p hp hn']
    exact hab p hp hn'
  · intro p hp hn
    have hp' : p ∈ s.localPlayerHandles := by rw [← hlp]; exact hp
    exact (hba p hp' hn).trans (hpre p hp')

theorem PairInv.of_moved {s s' : P2P} {t t' : TLState} {b : P2P × TLState} {ghA ghB ghA' : Ghost}
    (h : PairInv (s, t) b ghA ghB) (m : Moved s s' t' ghA ghA') : PairInv (s', t') b ghA' ghB := by
  have k := linkrel_keep s s' b.1 ghA ghA' ghB m.handles h.ab h.ba (fun p _ hn => m.remote p hn) (fun p _ => m.grows p)
  exact ⟨m.sess, m.glue, h.sb, h.gb, k.1, k.2⟩

theorem PairInv.of_other {s s' : P2P} {t t' : TLState} {b : P2P × TLState} {ghA ghB ghA' : Ghost}
    (h : PairInv (s, t) b ghA ghB) (sa : SessInv s' ghA' t' []) (ga : GlueInv s' ghA')
    (hlp : s'.localPlayerHandles = s.localPlayerHandles) (player : Nat) (hns : player ∉ s.localPlayerHandles)
    (hnb : player ∉ b.1.localPlayerHandles) (hoth : ∀ p, p ≠ player → ghA'.specs p = ghA.specs p) :
    PairInv (s', t') b ghA' ghB := by
  have k := linkrel_keep s s' b.1 ghA ghA' ghB hlp h.ab h.ba
    (fun p hp _ => hoth p (fun e => hnb (e ▸ hp)))
    (fun p hp => by rw [hoth p (fun e => hns (e ▸ hp))]; exact PrefixOf.refl _)
  exact ⟨sa, ga, h.sb, h.gb, k.1, k.2⟩

theorem linkrel_arrive (s s' o : P2P) (t tO : TLState) (ghR gh' ghO : Ghost) (f : Nat) (v : Input) (player : Nat)
    (hsr : SessInv s ghR t []) (hso : SessInv o ghO tO []) (hab : LinkRel s o ghR ghO) (hba : LinkRel o s ghO ghR)
    (hnl : player ∉ s.localPlayerHandles) (hpo : player < o.sync.queues.length) (hps : player < s.sync.queues.length)
    (hnext : (f : Int) = (rget s.localConnectStatus player).lastFrame + 1)
    (hle : (f : Int) ≤ (rget o.sync.queues player).lastAddedFrame)
    (hwin : (rget o.sync.queues player).lastAddedFrame < (f : Int) + INPUT_QUEUE_LENGTH)
    (hslot : rget (rget o.sync.queues player).inputs (f % INPUT_QUEUE_LENGTH) = ⟨(f : Int), v⟩)
    (hh : s'.handles = s.handles)
    (hsp : ∀ p, gh'.specs p = if p = player then ((ghR.specs p).submit (f : Int) v).1 else ghR.specs p) :
    LinkRel s' o gh' ghO ∧ LinkRel o s' ghO gh' := by
  have hlp := P2P.localPlayerHandles_congr hh
  obtain ⟨hd, hlu, hlen⟩ := hsr.remote player hps hnl
  have hfl : f = (ghR.specs player).vals.length := by
    have : (f : Int) = ((ghR.specs player).vals.length : Int) := by rw [hnext, ← hlu, hlen]
    exact_mod_cast this
  obtain ⟨hfO, hval⟩ := ring_read (hso.tinv.sync.all player hpo).ring hle hwin hslot
  have hnew : (gh'.specs player).vals = (ghR.specs player).vals ++ [v] := by
    rw [hsp player, if_pos rfl, hfl]
    exact submit_next (ghR.specs player) v hd hlen
  refine ⟨?_, ?_⟩
  · intro p hp hn
    have hn' : p ∉ s.localPlayerHandles := by rw [← hlp]; exact hn
    show PrefixOf (gh'.specs p).vals (ghO.specs p).vals
    by_cases hpp : p = player
    · subst hpp
      rw [hnew]
      exact prefixOf_snoc _ _ v (hab p hp hn') (by rw [← hfl]; exact hfO) (by rw [← hfl]; exact hval)
    · rw [hsp p, if_neg hpp]
      exact hab p hp hn'
  · intro p hp hn
    have hp' : p ∈ s.localPlayerHandles := by rw [← hlp]; exact hp
    show PrefixOf (ghO.specs p).vals (gh'.specs p).vals
    rw [hsp p, if_neg (fun (e : p = player) => hnl (e ▸ hp'))]
    exact hba p hp' hn

theorem half_inv (a b a' : P2P × TLState) (ghA ghB : Ghost) (h : PairInv a b ghA ghB) (hs : Half a b a') :
    ∃ ghA', PairInv a' b ghA' ghB := by
  cases hs with
  | localInput s t b handle input => exact ⟨ghA, h.of_moved (moved_localInput s ghA t handle input h.sa h.ga)⟩
  | saves s t b sv => exact ⟨ghA, h.of_moved (moved_saves s ghA t sv h.sa h.ga)⟩
  | tick s s' t b now reqs' hadv =>
    obtain ⟨gh', m⟩ := moved_tick s s' ghA t now reqs' h.sa h.ga hadv
    exact ⟨gh', h.of_moved m⟩
  | setDelay s s' t b now handle delay r hloc hp hset =>
    obtain ⟨gh', m⟩ := moved_setDelay s s' ghA t now handle delay r h.sa h.ga hloc hp hset
    exact ⟨gh', h.of_moved m⟩
  | arrive s s' t b now f v player handles addr hown hnl hpb hps hnext hle hwin hslot hev =>
    obtain ⟨gh', hinv', hg', _, _, hh, hsp⟩ :=
      glue_remoteInputX s s' ghA t now ⟨(f : Int), v⟩ player handles addr h.sa h.ga hnl (Int.natCast_nonneg _) hev
    have k := linkrel_arrive s s' b.1 t b.2 ghA gh' ghB f v player h.sa h.sb h.ab h.ba hnl hpb hps hnext hle hwin hslot hh hsp
    exact ⟨gh', hinv', hg', h.sb, h.gb, k.1, k.2⟩
  | arriveOther s s' t b now inp player handles addr hnl hnb h0 hev =>
    obtain ⟨gh', hinv', hg', _, _, hh, hsp⟩ := glue_remoteInputX s s' ghA t now inp player handles addr h.sa h.ga hnl h0 hev
    exact ⟨gh', h.of_other hinv' hg' (P2P.localPlayerHandles_congr hh) player hnl hnb (fun p hp => by rw [hsp p, if_neg hp])⟩

/-- `PairInv` for some ghosts: a step replaces the ghost of the session that moves. -/
def PPInv (x : (P2P × TLState) × (P2P × TLState)) : Prop := ∃ ghA ghB, PairInv x.1 x.2 ghA ghB

theorem PPInv_step (x y : (P2P × TLState) × (P2P × TLState)) (h : PPInv x) (hs : PStep x y) : PPInv y := by
  obtain ⟨ghA, ghB, h⟩ := h
  cases hs with
  | left a a' b hh =>
    obtain ⟨ghA', h'⟩ := half_inv a b a' ghA ghB h hh
    exact ⟨ghA', ghB, h'⟩
  | right a b b' hh =>
    obtain ⟨ghB', h'⟩ := half_inv b a b' ghB ghA h.symm hh
    exact ⟨ghA, ghB', h'.symm⟩

theorem PPInv_run (x y : (P2P × TLState) × (P2P × TLState)) (h : PPInv x) (hr : PStar x y) : PPInv y := by
  induction hr with
  | refl => exact h
  | step y z _ hs ih => exact PPInv_step y z ih hs

theorem fresh_session (s : P2P) (R : Nat → List (Input × InputStatus)) (n : Nat)
    (hq : s.sync.queues = List.replicate n InputQueue.new) (hst : s.localConnectStatus = List.replicate n {})
    (hc : s.sync.currentFrame = 0) (ho : s.outgoingLocalInputs = []) :
    ∃ gh, SessInv s gh ⟨0, R⟩ [] ∧ GlueInv s gh ∧ ∀ p, (gh.specs p).vals = [] :=
  ⟨_, SessInv_init s R n hq hst hc, GlueInv_init s _ n (fun _ => rfl) ho hst (by rw [hq]; simp), fun _ => rfl⟩

theorem PairInv.of_empty {a b : P2P × TLState} {ghA ghB : Ghost} (sa : SessInv a.1 ghA a.2 []) (ga : GlueInv a.1 ghA)
    (sb : SessInv b.1 ghB b.2 []) (gb : GlueInv b.1 ghB) (ea : ∀ p, (ghA.specs p).vals = [])
    (eb : ∀ p, (ghB.specs p).vals = []) : PairInv a b ghA ghB :=
  ⟨sa, ga, sb, gb, fun p _ _ => by rw [ea p, eb p]; exact PrefixOf.refl _,
    fun p _ _ => by rw [ea p, eb p]; exact PrefixOf.refl _⟩

theorem PPInv_init (a b : P2P) (RA RB : Nat → List (Input × InputStatus)) (n : Nat)
    (hqa : a.sync.queues = List.replicate n InputQueue.new) (hsta : a.localConnectStatus = List.replicate n {})
    (hca : a.sync.currentFrame = 0) (hoa : a.outgoingLocalInputs = [])
    (hqb : b.sync.queues = List.replicate n InputQueue.new) (hstb : b.localConnectStatus = List.replicate n {})
    (hcb : b.sync.currentFrame = 0) (hob : b.outgoingLocalInputs = []) :
    PPInv ((a, ⟨0, RA⟩), (b, ⟨0, RB⟩)) := by
  obtain ⟨ghA, sa, ga, ea⟩ := fresh_session a RA n hqa hsta hca hoa
  obtain ⟨ghB, sb, gb, eb⟩ := fresh_session b RB n hqb hstb hcb hob
  exact ⟨ghA, ghB, .of_empty sa ga sb gb ea eb⟩

theorem rollbackPhase_timeline (s s' : P2P) (gh : Ghost) (t : TLState) (now : Nat) (reqs' : List Request)
    (h : SessInv s gh t []) (hadv : s.advanceRollbackFrame now [] = .ok (s', reqs')) :
    ∃ (gh1 gh2 : Ghost) (s1 : P2P) (reqs1 : List Request),
      gh1.specs = gh.specs ∧ s1.sync.currentFrame = s.sync.currentFrame ∧
      s1.sync.queues.length = s.sync.queues.length ∧
      (∀ p, p < s.sync.queues.length → ∀ f : Nat, (f : Int) < s.sync.currentFrame →
        f < (gh.specs p).vals.length →
        ((((execReqs t reqs1).R f).getD p default).1 = (gh.specs p).vals.getD f 0)) ∧
      (reqs' = reqs1 ∨ ∃ (c : Nat) (ins : List (Input × InputStatus)), s.sync.currentFrame = (c : Int) ∧
        reqs' = reqs1 ++ [.advance ins] ∧ InputsOk s.pred gh2 c ins) := by
  obtain ⟨s1, reqs1, gh1, gh2, _, hset, hright, _, _, _, hcase⟩ := advanceRollbackFrame_spec s s' gh t [] reqs' now h hadv
  refine ⟨gh1, gh2, s1, reqs1, hset.specs, hset.cur, hset.nq, ?_, ?_⟩
  · intro p hp f hf hlen
    have hp1 : p < s1.sync.queues.length := by rw [hset.nq]; exact hp
    rw [← hset.inv.rows p hp1 f, ← hset.specs]
    exact hright p hp1 f (by rw [hset.cur]; exact hf) (by rw [hset.specs]; exact hlen)
  · rcases hcase with hr | ⟨c, ins, hc, hr, hok, _, _⟩
    · exact Or.inl hr
    · exact Or.inr ⟨c, ins, hc, hr, hok⟩

theorem agree_of_common (sA sB sA' sB' : P2P) (ghA ghB : Ghost) (tA tB : TLState) (nowA nowB : Nat)
    (reqsA reqsB : List Request) (hA : SessInv sA ghA tA []) (hB : SessInv sB ghB tB [])
    (P : Nat → Prop)
    (hcommon : ∀ p, P p → ∀ f, f < (ghA.specs p).vals.length → f < (ghB.specs p).vals.length →
      (ghA.specs p).vals.getD f 0 = (ghB.specs p).vals.getD f 0)
    (hcA : sA.advanceRollbackFrame nowA [] = .ok (sA', reqsA))
    (hcB : sB.advanceRollbackFrame nowB [] = .ok (sB', reqsB)) :
    ∃ (r1A r1B : List Request),
      (reqsA = r1A ∨ ∃ ins, reqsA = r1A ++ [.advance ins]) ∧ (reqsB = r1B ∨ ∃ ins, reqsB = r1B ++ [.advance ins]) ∧
      ∀ p, P p → p < sA.sync.queues.length → p < sB.sync.queues.length → ∀ f : Nat,
        (f : Int) < sA.sync.currentFrame → (f : Int) < sB.sync.currentFrame →
        (f : Int) ≤ (rget sA.sync.queues p).lastAddedFrame → (f : Int) ≤ (rget sB.sync.queues p).lastAddedFrame →
        (((execReqs tA r1A).R f).getD p default).1 = (((execReqs tB r1B).R f).getD p default).1 := by
  obtain ⟨_, _, _, r1A, _, _, _, hrowA, hcaseA⟩ := rollbackPhase_timeline sA sA' ghA tA nowA reqsA hA hcA
  obtain ⟨_, _, _, r1B, _, _, _, hrowB, hcaseB⟩ := rollbackPhase_timeline sB sB' ghB tB nowB reqsB hB hcB
  refine ⟨r1A, r1B, hcaseA.imp_right fun ⟨_, ins, _, h, _⟩ => ⟨ins, h⟩,
    hcaseB.imp_right fun ⟨_, ins, _, h, _⟩ => ⟨ins, h⟩, ?_⟩
  intro p hP hpA hpB f hfA hfB hqA hqB
  have hlA : f < (ghA.specs p).vals.length := by
    rw [lastAdded_of_QI (hA.tinv.sync.all p hpA)] at hqA; omega
  have hlB : f < (ghB.specs p).vals.length := by
    rw [lastAdded_of_QI (hB.tinv.sync.all p hpB)] at hqB; omega
  rw [hrowA p hpA f hfA hlA, hrowB p hpB f hfB hlB]
  exact hcommon p hP f hlA hlB

/-- L-pair. After any run of the pair, the two games' last simulations (after the rollback phase of
the next call on either side) carry the same input for every player owned by one of the two
sessions, on every frame both have simulated and both queues hold. -/
theorem pair_agree (x y : (P2P × TLState) × (P2P × TLState)) (h0 : PPInv x) (hrun : PStar x y)
    (nowA nowB : Nat) (sA' sB' : P2P) (reqsA reqsB : List Request)
    (hcA : y.1.1.advanceRollbackFrame nowA [] = .ok (sA', reqsA))
    (hcB : y.2.1.advanceRollbackFrame nowB [] = .ok (sB', reqsB)) :
    ∃ (r1A r1B : List Request),
      (reqsA = r1A ∨ ∃ ins, reqsA = r1A ++ [.advance ins]) ∧ (reqsB = r1B ∨ ∃ ins, reqsB = r1B ++ [.advance ins]) ∧
      ∀ p, ((p ∈ y.1.1.localPlayerHandles ∧ p ∉ y.2.1.localPlayerHandles) ∨
            (p ∈ y.2.1.localPlayerHandles ∧ p ∉ y.1.1.localPlayerHandles)) →
        p < y.1.1.sync.queues.length → p < y.2.1.sync.queues.length → ∀ f : Nat,
        (f : Int) < y.1.1.sync.currentFrame → (f : Int) < y.2.1.sync.currentFrame →
        (f : Int) ≤ (rget y.1.1.sync.queues p).lastAddedFrame → (f : Int) ≤ (rget y.2.1.sync.queues p).lastAddedFrame →
        (((execReqs y.1.2 r1A).R f).getD p default).1 = (((execReqs y.2.2 r1B).R f).getD p default).1 := by
  obtain ⟨ghA, ghB, h⟩ := PPInv_run x y h0 hrun
  refine agree_of_common y.1.1 y.2.1 sA' sB' ghA ghB y.1.2 y.2.2 nowA nowB reqsA reqsB h.sa h.sb _ ?_ hcA hcB
  intro p hown f hlA hlB
  rcases hown with ⟨ha, hnb⟩ | ⟨hb, hna⟩
  · exact (h.ba p ha hnb).2 f hlB
  · exact ((h.ab p hb hna).2 f hlA).symm

end Ggrs
