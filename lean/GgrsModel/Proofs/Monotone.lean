/-
`confirmed_frame()` never decreases (rollback mode, no disconnected players, delay changes
included): every player's `last_frame` is the newest frame its queue holds, and queues only grow.
-/
import GgrsModel.Proofs.DelayStep

namespace Ggrs
open InputQueue

theorem status_top (s : P2P) (gh : Ghost) (t : TLState) (reqs : List Request) (h : SessInv s gh t reqs)
    (hg : GlueInv s gh) (p : Nat) (hp : p < s.sync.queues.length) :
    (rget s.localConnectStatus p).lastFrame = ((gh.specs p).vals.length : Int) - 1 := by
  by_cases hl : p ∈ s.localPlayerHandles
  · exact hg.top p hl hp
  · obtain ⟨_, hlu, hlen⟩ := h.remote p hp hl
    rw [← hlu]; omega

theorem confirmed_fold_mono : ∀ (l l' : List ConnStatus) (m m' : Int), l.length = l'.length → m ≤ m' →
    (∀ cs ∈ l, cs.disconnected = false) → (∀ cs ∈ l', cs.disconnected = false) →
    (∀ i, i < l.length → (rget l i).lastFrame ≤ (rget l' i).lastFrame) →
    l.foldl (fun m cs => if !cs.disconnected then min m cs.lastFrame else m) m ≤
    l'.foldl (fun m cs => if !cs.disconnected then min m cs.lastFrame else m) m' := by
  intro l
  induction l with
  | nil =>
    intro l' m m' hl hm _ _ _
    cases l' with
    | nil => exact hm
    | cons a as => simp at hl
  | cons a as ih =>
    intro l' m m' hl hm hc hc' hle
    cases l' with
    | nil => simp at hl
    | cons b bs =>
      have ha : a.disconnected = false := hc a List.mem_cons_self
      have hb : b.disconnected = false := hc' b List.mem_cons_self
      simp only [List.foldl_cons, ha, hb, Bool.not_false, if_true]
      have h0 := hle 0 (by simp)
      simp only [rget, List.getD_cons_zero] at h0
      apply ih bs _ _ (by simpa using hl) (by omega)
        (fun cs hcs => hc cs (List.mem_cons_of_mem _ hcs)) (fun cs hcs => hc' cs (List.mem_cons_of_mem _ hcs))
      intro i hi
      have := hle (i + 1) (by simp; omega)
      simpa [rget] using this

theorem HInv_run_grow (x y : P2P × TLState) (hr : DStar x y) : ∀ gh, SessInv x.1 gh x.2 [] → GlueInv x.1 gh →
    ∃ gh', SessInv y.1 gh' y.2 [] ∧ GlueInv y.1 gh' ∧ y.1.sync.queues.length = x.1.sync.queues.length ∧
      ∀ p, (gh.specs p).vals.length ≤ (gh'.specs p).vals.length := by
  induction hr with
  | refl => intro gh a b; exact ⟨gh, a, b, rfl, fun _ => Nat.le_refl _⟩
  | step y z _ hs ih =>
    intro gh a b
    obtain ⟨gh1, a1, b1, q1, g1⟩ := ih gh a b
    obtain ⟨gh2, a2, b2, q2, g2⟩ := HInv_step_grow y z gh1 a1 b1 hs
    exact ⟨gh2, a2, b2, q2.trans q1, fun p => Nat.le_trans (g1 p) (g2 p).1⟩

/-- `confirmed_frame()` never decreases along any run of `DStar`: remote-input arrivals, `advance_frame` calls,
local inputs, cell writes and delay changes (`C03_confirmed_monotone`). -/
theorem confirmedFrame_mono (x y : P2P × TLState) (h : HInv x) (hr : DStar x y) (cx cy : Frame)
    (hcx : x.1.confirmedFrame = .ok cx) (hcy : y.1.confirmedFrame = .ok cy) : cx ≤ cy := by
  obtain ⟨⟨gh, hx, hgx⟩, _⟩ := h
  obtain ⟨gh', hy, hgy, hq, hgrow⟩ := HInv_run_grow x y hr gh hx hgx
  obtain ⟨rfl, _⟩ := P2P.confirmedFrame_ok hcx
  obtain ⟨rfl, _⟩ := P2P.confirmedFrame_ok hcy
  apply confirmed_fold_mono _ _ _ _ (by rw [hx.tinv.sync.nq, hy.tinv.sync.nq, hq]) (Int.le_refl _)
    hx.tinv.sync.conn hy.tinv.sync.conn
  intro i hi
  have hi' : i < x.1.sync.queues.length := by rw [← hx.tinv.sync.nq]; exact hi
  rw [status_top x.1 gh x.2 [] hx hgx i hi', status_top y.1 gh' y.2 [] hy hgy i (by rw [hq]; exact hi')]
  have := hgrow i
  omega

end Ggrs
