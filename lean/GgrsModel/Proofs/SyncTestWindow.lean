/-
The comparison window of a sync test, exactly: which frames one `advance_frame` call compares, which
it reports, and what it remembers afterwards — for every state.
-/
import GgrsModel.Proofs.SyncTestProof

namespace Ggrs

/-- Frame `f` is reported: its cell holds frame `f`, a checksum for `f` is remembered, and the two differ. -/
def stMismatch (s : SyncTest) (f : Frame) : Bool :=
  let cell := rget s.sync.cells (frameIdx f s.sync.cells.length)
  cell.frame == f && match alookup f (stPruned s) with
    | some c => !(c == cell.checksum)
    | none => false

theorem alookup_prune (cur : Int) (cd : Nat) (h : List (Int × Option Nat)) (k : Int) :
    alookup k (h.filter fun p => decide (p.1 ≥ cur - (cd : Int))) = if k ≥ cur - (cd : Int) then alookup k h else none := by
  rw [alookup_filter_key (fun x => decide (x ≥ cur - (cd : Int)))]
  by_cases hk : k ≥ cur - (cd : Int) <;> simp [hk]

theorem stPruned_again (s : SyncTest) (hist : List (Int × Option Nat)) (k : Int)
    (h : alookup k hist = alookup k (stPruned s)) :
    alookup k (stPruned { s with checksumHistory := hist }) = alookup k (stPruned s) := by
  show alookup k (hist.filter _) = _
  rw [alookup_prune, h]
  unfold stPruned
  rw [alookup_prune]
  by_cases hk : k ≥ s.sync.currentFrame - (s.checkDistance : Int) <;> simp [hk]

theorem checksumsConsistent_exact (s s' : SyncTest) (f : Frame) (ok : Bool)
    (h : s.checksumsConsistent f = .ok (s', ok)) :
    ok = !stMismatch s f ∧ ∃ hist, s' = { s with checksumHistory := hist } ∧
    ∀ k, k ≠ f → alookup k (stPruned s') = alookup k (stPruned s) := by
  obtain ⟨_, hist, rfl, hcase⟩ := checksumsConsistent_ok s s' f ok _ rfl h
  unfold stMismatch
  rcases hcase with ⟨hne, rfl, rfl⟩ | ⟨hfr, cs, hlk, rfl, rfl⟩ | ⟨hfr, hlk, rfl, rfl⟩
  · refine ⟨?_, _, rfl, fun k _ => stPruned_again s _ k rfl⟩
    simp only [beq_eq_false_iff_ne.mpr hne, Bool.false_and, Bool.not_false]
  · refine ⟨?_, _, rfl, fun k _ => stPruned_again s _ k rfl⟩
    simp only [hfr, hlk, beq_self_eq_true, Bool.true_and, Bool.not_not]
  · refine ⟨?_, _, rfl, fun k hk => stPruned_again s _ k (alookup_ainsert_ne _ _ _ hk _)⟩
    simp only [hfr, hlk, beq_self_eq_true, Bool.true_and, Bool.not_false]

theorem filterMap_congr' {α β} (f g : α → Option β) : ∀ (l : List α), (∀ x ∈ l, f x = g x) →
    l.filterMap f = l.filterMap g := by
  intro l
  induction l with
  | nil => intro _; rfl
  | cons a as ih =>
    intro h
    rw [List.filterMap_cons, List.filterMap_cons, h a List.mem_cons_self, ih (fun x hx => h x (List.mem_cons_of_mem _ hx))]

/-- The comparison loop, exactly: the frames reported are, in ascending order, the frames
`oldest + i .. oldest + i + n - 1` whose cell holds that frame with a checksum different from the one
remembered for it (after pruning to `current_frame - check_distance`). -/
theorem checkFrames_exact (oldest : Frame) : ∀ (n i : Nat) (s s' : SyncTest) (mis mis' : List Frame),
    SyncTest.checkFrames oldest n i s mis = .ok (s', mis') →
    mis' = mis ++ ((List.range n).filterMap fun j =>
      if stMismatch s (oldest + ((i + j : Nat) : Int)) then some (oldest + ((i + j : Nat) : Int)) else none) := by
  intro n
  induction n with
  | zero =>
    intro i s s' mis mis' h
    simp only [SyncTest.checkFrames] at h
    cases h
    simp
  | succ k ih =>
    intro i s s' mis mis' h
    simp only [SyncTest.checkFrames, bind_eq_ok, Prod.exists] at h
    obtain ⟨s1, ok, hcc, h⟩ := h
    obtain ⟨hok, hist, rfl, hother⟩ := checksumsConsistent_exact s s1 _ ok hcc
    rw [ih (i + 1) _ s' _ mis' h, List.range_succ_eq_map, List.filterMap_cons, List.filterMap_map]
    -- the later frames are judged as before this comparison
    have hshift : (List.range k).filterMap (fun j =>
          if stMismatch { s with checksumHistory := hist } (oldest + ((i + 1 + j : Nat) : Int)) then
            some (oldest + ((i + 1 + j : Nat) : Int)) else none) =
        (List.range k).filterMap ((fun j =>
          if stMismatch s (oldest + ((i + j : Nat) : Int)) then some (oldest + ((i + j : Nat) : Int)) else none) ∘ Nat.succ) := by
      apply filterMap_congr'
      intro j _
      simp only [Function.comp]
      rw [show i + 1 + j = i + (j + 1) by omega]
      have hne : oldest + ((i + (j + 1) : Nat) : Int) ≠ oldest + (i : Int) := by push_cast; omega
      unfold stMismatch
      rw [hother _ hne]
    rw [hshift]
    simp only [Nat.add_zero]
    by_cases hmm : stMismatch s (oldest + (i : Int)) = true
    · have : ok = false := by rw [hok, hmm]; rfl
      simp only [this, Bool.not_false, if_true, hmm, List.append_assoc, List.singleton_append]
    · have hmf : stMismatch s (oldest + (i : Int)) = false := by simpa using hmm
      have : ok = true := by rw [hok, hmf]; rfl
      simp only [this, Bool.not_true, Bool.false_eq_true, if_false, hmf]

/-- The frames one warm call reports: the window `current - check_distance ..= current`. -/
def stReported (s : SyncTest) : List Frame :=
  (List.range (s.checkDistance + 1)).filterMap fun j =>
    if stMismatch s (s.sync.currentFrame - (s.checkDistance : Int) + ((0 + j : Nat) : Int)) then
      some (s.sync.currentFrame - (s.checkDistance : Int) + ((0 + j : Nat) : Int)) else none

theorem mem_stReported (s : SyncTest) (g : Frame) :
    g ∈ stReported s ↔ stMismatch s g = true ∧
      ∃ j, j < s.checkDistance + 1 ∧ g = s.sync.currentFrame - (s.checkDistance : Int) + ((0 + j : Nat) : Int) := by
  unfold stReported
  rw [List.mem_filterMap]
  constructor
  · rintro ⟨j, hj, h⟩
    split at h
    · rename_i hm
      cases h
      exact ⟨hm, j, List.mem_range.mp hj, rfl⟩
    · cases h
  · rintro ⟨hm, j, hj, rfl⟩
    exact ⟨j, List.mem_range.mpr hj, if_pos hm⟩

/-- What a call of `advance_frame` reports, in every state. While warming up (check distance 0, or
`current_frame ≤ check_distance`) nothing is compared. Otherwise `MismatchedChecksum` is returned iff some frame in
`current_frame - check_distance ..= current_frame` has its cell holding that frame with a checksum different from
the first one remembered for it inside the window, and it names exactly those frames, in ascending order. -/
theorem advanceFrame_reports (s s' : SyncTest) (r : Except GgrsError (List Request))
    (h : s.advanceFrame = .ok (s', r)) :
    ((decide (s.checkDistance > 0) && decide (s.sync.currentFrame > (s.checkDistance : Int))) = true ∧ stReported s ≠ [] →
      r = .error (.mismatchedChecksum s.sync.currentFrame (stReported s))) ∧
    (((decide (s.checkDistance > 0) && decide (s.sync.currentFrame > (s.checkDistance : Int))) = false ∨ stReported s = []) →
      ∀ e, r = .error e → e = .invalidRequest) := by
  rcases advanceFrame_ok s s' r h with ⟨hwarm, s1, res, hv, ha⟩ | ⟨hcold, ha⟩
  · obtain ⟨sa, mis, hcf, hv⟩ := verifyAndRollback_ok s s1 _ res hv
    have hmr : stReported s = mis := (checkFrames_exact _ _ 0 s sa [] mis hcf).symm
    rw [hmr]
    rcases hv with ⟨hne, _, rfl⟩ | ⟨rfl, reqs, _, rfl⟩
    · obtain ⟨e, he, _, rfl⟩ | ⟨_, he, _⟩ := ha
      · cases he
        exact ⟨fun _ => rfl, fun hc => hc.elim (fun hc => absurd (hwarm.symm.trans hc) nofun) (fun hc => absurd hc hne)⟩
      · cases he
    · obtain ⟨e, he, _⟩ | ⟨_, he, ha⟩ := ha
      · cases he
      · cases he
        exact ⟨fun hc => absurd rfl hc.2, fun _ => (finishFrame_fields _ s' _ r ha).2⟩
  · exact ⟨fun hc => absurd (hcold.symm.trans hc.1) nofun, fun _ => (finishFrame_fields s s' [] r ha).2⟩

end Ggrs
