/-
L-checksum: what a session reports for desync detection. With a deterministic game whose saves hand
over the checksum of the saved state, every checksum report a rollback-mode session sends (and remembers
for comparison) is the checksum of the serial replay of the session's own timeline up to the reported
frame, and the frame is confirmed — along every run of `CWStep`.
-/
import GgrsModel.Proofs.DelayStep
import GgrsModel.Proofs.GameCells

namespace Ggrs

def CkRel {G : Type} (csf : G → Option Nat) (cells : List Cell) (x : GS G) : Prop :=
  ∀ i, i < cells.length → 0 ≤ (rget cells i).frame → (rget cells i).checksum = csf (x.cellG i)

theorem foldl_pick {α} (P : α → Prop) (f : Option α → α → Option α)
    (hf : ∀ best y, f best y = best ∨ (f best y = some y ∧ P y)) (c : α) :
    ∀ (l : List α) (best : Option α), l.foldl f best = some c → best = some c ∨ (c ∈ l ∧ P c) := by
  intro l
  induction l with
  | nil => intro best h; exact Or.inl h
  | cons y ys ih =>
    intro best h
    rcases ih _ h with h1 | ⟨hm, hp⟩
    · rcases hf best y with e | ⟨e, hp⟩
      · exact Or.inl (e ▸ h1)
      · cases e.symm.trans h1
        exact Or.inr ⟨List.mem_cons_self, hp⟩
    · exact Or.inr ⟨List.mem_cons_of_mem _ hm, hp⟩

theorem latestInRange_mem (sy : SyncLayer) (start stop : Frame) (c : Cell)
    (h : sy.latestSavedStateInRange start stop = some c) : c ∈ sy.cells ∧ start ≤ c.frame ∧ c.frame ≤ stop := by
  unfold SyncLayer.latestSavedStateInRange at h
  split at h
  · cases h
  · refine (foldl_pick (fun y => start ≤ y.frame ∧ y.frame ≤ stop) _ ?_ c sy.cells none h).resolve_left nofun
    intro best y
    by_cases hin : (decide (y.frame ≥ start) && decide (y.frame ≤ stop)) = true
    · have hy : start ≤ y.frame ∧ y.frame ≤ stop := by simpa using hin
      rw [if_pos hin]
      cases best with
      | none => exact Or.inr ⟨rfl, hy⟩
      | some b =>
        by_cases hb : y.frame ≥ b.frame
        · exact Or.inr ⟨if_pos hb, hy⟩
        · exact Or.inl (if_neg hb)
    · exact Or.inl (if_neg hin)

theorem SyncLayer.savedStateByFrame_ok (sy : SyncLayer) (f : Frame) (oc : Option Cell)
    (h : sy.savedStateByFrame f = .ok oc) :
    0 ≤ f ∧ oc = if (rget sy.cells (frameIdx f sy.cells.length)).frame == f
      then some (rget sy.cells (frameIdx f sy.cells.length)) else none := by
  unfold SyncLayer.savedStateByFrame at h
  obtain ⟨pos, hpos, h⟩ := bind_ok h
  obtain ⟨h0, rfl⟩ := SyncLayer.cellPos_ok hpos
  exact ⟨h0, (pure_ok h).symm⟩

/-- The cell whose checksum is reported is a written cell of a confirmed frame. -/
theorem checksumCell_mem (s : P2P) (interval : Nat) (cell : Cell) (hn : 0 < s.sync.cells.length)
    (h : s.checksumCellToReport interval = .ok (some cell)) :
    ∃ i, i < s.sync.cells.length ∧ rget s.sync.cells i = cell ∧ 0 ≤ cell.frame ∧
      cell.frame ≤ s.sync.lastConfirmedFrame ∧ s.nextReportFrame interval ≤ cell.frame := by
  unfold P2P.checksumCellToReport at h
  simp only at h
  by_cases hdue : s.nextReportFrame interval ≤ s.sync.lastConfirmedFrame
  · rw [if_pos hdue] at h
    obtain ⟨direct, hsv, h⟩ := bind_ok h
    obtain ⟨hf0, hd⟩ := s.sync.savedStateByFrame_ok _ _ hsv
    have hr := pure_ok h
    subst hd
    by_cases hcf : ((rget s.sync.cells (frameIdx (s.nextReportFrame interval) s.sync.cells.length)).frame
        == s.nextReportFrame interval) = true
    · rw [if_pos hcf] at hr
      cases hr
      have hfr := eq_of_beq hcf
      exact ⟨_, Nat.mod_lt _ hn, rfl, hfr.symm ▸ hf0, Int.le_trans (Int.le_of_eq hfr) hdue, Int.le_of_eq hfr.symm⟩
    · rw [if_neg hcf] at hr
      obtain ⟨hm, a, b⟩ := latestInRange_mem _ _ _ _ hr
      obtain ⟨i, hi, hget⟩ := List.mem_iff_getElem.mp hm
      refine ⟨i, hi, ?_, by omega, b, a⟩
      simp [rget, List.getD_eq_getElem?_getD, hi, hget]
  · rw [if_neg hdue] at h
    cases pure_ok h

theorem CkRel_save {G : Type} (step : G → List (Input × InputStatus) → G) (csf : G → Option Nat)
    (cells : List Cell) (x : GS G) (f : Frame) (h : CkRel csf cells x) (hn : 0 < cells.length) (hf : 0 ≤ f) :
    CkRel csf (rset cells (frameIdx f cells.length) ⟨f, csf x.g⟩) (execG step cells.length x (.save f)) := by
  have hlt : f.toNat % cells.length < cells.length := Nat.mod_lt _ hn
  intro i hi hfr
  rw [rset_length] at hi
  rw [frameIdx_of_nonneg _ hf] at hfr ⊢
  simp only [execG]
  by_cases hie : i = f.toNat % cells.length
  · subst hie
    rw [rget_rset_eq _ _ _ hlt, upd_self]
  · rw [rget_rset_ne _ _ _ _ (fun e => hie e.symm)] at hfr ⊢
    rw [upd_ne _ _ _ _ hie]
    exact h i hi hfr

theorem CkRel_execSWs {G : Type} (step : G → List (Input × InputStatus) → G) (csf : G → Option Nat) :
    ∀ (rs : List Request) (w : List Cell × GS G), CkRel csf w.1 w.2 → 0 < w.1.length →
    (∀ f ∈ savedFrames rs, 0 ≤ f) →
    CkRel csf (execSWs step csf w rs).1 (execSWs step csf w rs).2 ∧ (execSWs step csf w rs).1.length = w.1.length := by
  intro rs
  induction rs with
  | nil => intro w h _ _; exact ⟨h, rfl⟩
  | cons r rest ih =>
    intro w h hn hs
    cases r with
    | save f =>
      simp only [savedFrames, List.forall_mem_cons] at hs
      have l1 : (rset w.1 (frameIdx f w.1.length) ⟨f, csf w.2.g⟩).length = w.1.length := rset_length _ _ _
      obtain ⟨h2, l2⟩ := ih (execSW step csf w (.save f)) (CkRel_save step csf w.1 w.2 f h hn hs.1) (l1 ▸ hn) hs.2
      exact ⟨h2, l2.trans l1⟩
    | load f => exact ih _ h hn hs
    | advance ins => exact ih _ h hn hs

theorem gameSaves_frames {G : Type} (step : G → List (Input × InputStatus) → G) (csf : G → Option Nat) (n : Nat) :
    ∀ (rs : List Request) (x : GS G), (gameSaves step csf n x rs).map (·.1) = savedFrames rs := by
  intro rs
  induction rs with
  | nil => intro x; rfl
  | cons r rest ih =>
    intro x
    cases r with
    | save f => exact congrArg (f :: ·) (ih _)
    | load f => exact ih _
    | advance ins => exact ih _

def CInv {G : Type} (step : G → List (Input × InputStatus) → G) (g0 : G) (csf : G → Option Nat) (w : P2P × GS G) : Prop :=
  WInv step g0 w.1 w.2 ∧ CkRel csf w.1.sync.cells w.2

/-- What is reported is the replay: the cell a checksum report would be taken from holds a confirmed frame,
and its checksum is that of the serial replay of the session's timeline up to that frame. -/
theorem reported_of_chk {G : Type} (step : G → List (Input × InputStatus) → G) (g0 : G) (csf : G → Option Nat)
    (s : P2P) (x : GS G) (hn : 0 < s.sync.cells.length)
    (hchk : ∃ c, c.cur = s.sync.currentFrame ∧ GInv step g0 s.sync.cells.length x c ∧
      (∀ i, i < s.sync.cells.length → c.tag i = (rget s.sync.cells i).frame) ∧ ModeInv s c)
    (hck : CkRel csf s.sync.cells x) (interval : Nat) (cell : Cell)
    (hc : s.checksumCellToReport interval = .ok (some cell)) :
    0 ≤ cell.frame ∧ cell.frame ≤ s.sync.lastConfirmedFrame ∧ s.nextReportFrame interval ≤ cell.frame ∧
    cell.checksum = csf (replay step g0 x.R cell.frame.toNat) := by
  obtain ⟨i, hi, hget, h0, hle, hnext⟩ := checksumCell_mem s interval cell hn hc
  refine ⟨h0, hle, hnext, ?_⟩
  obtain ⟨c, _, hg, htags, hmode⟩ := hchk
  have htag : c.tag i = cell.frame := by rw [htags i hi, hget]
  have hvalid : c.valid i := by
    rcases hmode with ⟨_, hq, _⟩ | ⟨_, hq⟩
    · exact (hq.ok i hi (htag ▸ h0)).1
    · exact (hq.ok i hi (htag ▸ h0)).1
  obtain ⟨_, hcell⟩ := hg.cells i hi hvalid
  have := hck i hi (hget ▸ h0)
  rw [hget] at this
  rw [this, hcell, htag]

theorem reported_is_replay {G : Type} (step : G → List (Input × InputStatus) → G) (g0 : G) (csf : G → Option Nat)
    (s : P2P) (x : GS G) (h : CInv step g0 csf (s, x)) (interval : Nat) (cell : Cell)
    (hc : s.checksumCellToReport interval = .ok (some cell)) :
    0 ≤ cell.frame ∧ cell.frame ≤ s.sync.lastConfirmedFrame ∧ s.nextReportFrame interval ≤ cell.frame ∧
    cell.checksum = csf (replay step g0 x.R cell.frame.toNat) :=
  reported_of_chk step g0 csf s x h.1.ncells h.1.chk h.2 interval cell hc

theorem report_shape (s s' : P2P) (now : Nat) (h : s.checkChecksumSendInterval now = .ok s') :
    ∃ rem f hist, s' = { s with remotes := rem, lastSentChecksumFrame := f, localChecksumHistory := hist } := by
  have hid : ∃ rem f hist, s = { s with remotes := rem, lastSentChecksumFrame := f, localChecksumHistory := hist } :=
    ⟨s.remotes, s.lastSentChecksumFrame, s.localChecksumHistory, rfl⟩
  unfold P2P.checkChecksumSendInterval at h
  split at h
  · cases pure_ok h; exact hid
  · obtain ⟨oc, _, h⟩ := bind_ok h
    split at h
    · cases pure_ok h; exact hid
    · split at h
      · cases pure_ok h; exact hid
      · cases pure_ok h; exact ⟨_, _, _, rfl⟩

theorem report_fields (s s' : P2P) (now : Nat) (h : s.checkChecksumSendInterval now = .ok s') :
    P2P.SameCore s s' ∧ s'.outgoingLocalInputs = s.outgoingLocalInputs := by
  obtain ⟨_, _, _, rfl⟩ := report_shape s s' now h
  exact ⟨⟨rfl, rfl, rfl, rfl, rfl, rfl, rfl, rfl, rfl⟩, rfl⟩

theorem report_nsf (s s' : P2P) (now : Nat) (h : s.checkChecksumSendInterval now = .ok s') :
    s'.nextSpectatorFrame = s.nextSpectatorFrame := by
  obtain ⟨_, _, _, rfl⟩ := report_shape s s' now h
  rfl

theorem checkWaitRec_eq (s : P2P) : s.checkWaitRecommendation = .ok
    (if (decide (s.sync.currentFrame > s.nextRecommendedSleep) && decide (s.maxFrameAdvantage ≥ (MIN_RECOMMENDATION : Int))) = true
     then ({ s with framesAhead := s.maxFrameAdvantage,
                    nextRecommendedSleep := s.sync.currentFrame + (RECOMMENDATION_INTERVAL : Int) } : P2P).pushEvent
            (.waitRecommendation s.maxFrameAdvantage.toNat)
     else { s with framesAhead := s.maxFrameAdvantage }) := by
  unfold P2P.checkWaitRecommendation
  simp only
  split <;> rfl

theorem waitRec_shape (s s' : P2P) (h : s.checkWaitRecommendation = .ok s') :
    ∃ fa nrs evq, s' = { s with framesAhead := fa, nextRecommendedSleep := nrs, eventQueue := evq } := by
  rw [checkWaitRec_eq] at h
  cases pure_ok h
  split
  · exact ⟨_, _, _, rfl⟩
  · exact ⟨_, s.nextRecommendedSleep, s.eventQueue, rfl⟩

theorem waitRec_fields (s s' : P2P) (h : s.checkWaitRecommendation = .ok s') :
    P2P.SameCore s s' ∧ s'.outgoingLocalInputs = s.outgoingLocalInputs := by
  obtain ⟨_, _, _, rfl⟩ := waitRec_shape s s' h
  exact ⟨⟨rfl, rfl, rfl, rfl, rfl, rfl, rfl, rfl, rfl⟩, rfl⟩

theorem waitRec_nsf (s s' : P2P) (h : s.checkWaitRecommendation = .ok s') :
    s'.nextSpectatorFrame = s.nextSpectatorFrame := by
  obtain ⟨_, _, _, rfl⟩ := waitRec_shape s s' h
  rfl

theorem compare_shape (s : P2P) :
    ∃ evq rem, s.compareLocalChecksumsAgainstPeers = { s with eventQueue := evq, remotes := rem } := by
  unfold P2P.compareLocalChecksumsAgainstPeers
  split
  · exact ⟨s.eventQueue, s.remotes, rfl⟩
  · refine List.foldlRecOn (motive := fun a : P2P => ∃ evq rem, a = { s with eventQueue := evq, remotes := rem })
      _ _ ⟨s.eventQueue, s.remotes, rfl⟩ ?_
    rintro _ ⟨_, _, rfl⟩ p _
    exact ⟨_, _, rfl⟩

theorem compare_fields (s : P2P) :
    P2P.SameCore s s.compareLocalChecksumsAgainstPeers ∧
    s.compareLocalChecksumsAgainstPeers.outgoingLocalInputs = s.outgoingLocalInputs := by
  obtain ⟨_, _, h⟩ := compare_shape s
  rw [h]
  exact ⟨⟨rfl, rfl, rfl, rfl, rfl, rfl, rfl, rfl, rfl⟩, rfl⟩

theorem compare_nsf (s : P2P) :
    s.compareLocalChecksumsAgainstPeers.nextSpectatorFrame = s.nextSpectatorFrame := by
  obtain ⟨_, _, h⟩ := compare_shape s
  rw [h]

/-- Steps of the world with a deterministic game: those of `DWStep` with `saves := gameSaves …`, and the
three network-only phases of `advance_frame_after_poll` (`report`, `compare`, `waitRec`). -/
inductive CWStep {G : Type} (step : G → List (Input × InputStatus) → G) (csf : G → Option Nat) :
    (P2P × GS G) → (P2P × GS G) → Prop
  | remoteInput (s s' : P2P) (x : GS G) (now : Nat) (inp : PlayerInput) (player : Nat) (handles : List Nat)
      (addr : Nat) : player ∉ s.localPlayerHandles → 0 ≤ inp.frame →
      s.handleEventCore now (.input inp player) handles addr = .ok s' → CWStep step csf (s, x) (s', x)
  | setDelay (s s' : P2P) (x : GS G) (now handle delay : Nat) (r : Except GgrsError Unit) :
      handle ∈ s.localPlayerHandles → handle < s.sync.queues.length →
      s.setInputDelay now handle delay = .ok (s', r) → CWStep step csf (s, x) (s', x)
  | report (s s' : P2P) (x : GS G) (now : Nat) : s.checkChecksumSendInterval now = .ok s' → CWStep step csf (s, x) (s', x)
  | compare (s : P2P) (x : GS G) : CWStep step csf (s, x) (s.compareLocalChecksumsAgainstPeers, x)
  | waitRec (s s' : P2P) (x : GS G) : s.checkWaitRecommendation = .ok s' → CWStep step csf (s, x) (s', x)
  | tick (s s' : P2P) (x : GS G) (now : Nat) (reqs' : List Request) :
      s.advanceRollbackFrame now [] = .ok (s', reqs') →
      CWStep step csf (s, x)
        (s'.userExecute (gameSaves step csf s.sync.cells.length x reqs'), execGs step s.sync.cells.length x reqs')
  | tick0 (s s' : P2P) (x : GS G) (now : Nat) (sy : SyncLayer) (r : Request) (reqs' : List Request) :
      s.sync.currentFrame = 0 → s.sync.saveCurrentState = .ok (sy, r) →
      ({ s with sync := sy } : P2P).advanceRollbackFrame now [r] = .ok (s', reqs') →
      CWStep step csf (s, x)
        (s'.userExecute (gameSaves step csf s.sync.cells.length x reqs'), execGs step s.sync.cells.length x reqs')
  | localInput (s : P2P) (x : GS G) (handle : Nat) (input : Input) :
      CWStep step csf (s, x) ((s.addLocalInput handle input).1, x)

inductive CWStar {G : Type} (step : G → List (Input × InputStatus) → G) (csf : G → Option Nat) :
    (P2P × GS G) → (P2P × GS G) → Prop
  | refl (w) : CWStar step csf w w
  | step (a b c) : CWStar step csf a b → CWStep step csf b c → CWStar step csf a c

/-- `CInv` with `DWInv` for `WInv`: the `setDelay` step needs the glue invariant (`setInputDelay_spec`). -/
def CInv2 {G : Type} (step : G → List (Input × InputStatus) → G) (g0 : G) (csf : G → Option Nat) (w : P2P × GS G) : Prop :=
  DWInv step g0 w ∧ CkRel csf w.1.sync.cells w.2

theorem CInv2_netOnly {G : Type} (step : G → List (Input × InputStatus) → G) (g0 : G) (csf : G → Option Nat)
    (s s' : P2P) (x : GS G) (h : CInv2 step g0 csf (s, x))
    (hf : P2P.SameCore s s' ∧ s'.outgoingLocalInputs = s.outgoingLocalInputs) : CInv2 step g0 csf (s', x) := by
  obtain ⟨⟨hw, gh, hsess, hg⟩, hck⟩ := h
  obtain ⟨hc, ho⟩ := hf
  have hsess' : SessInv s' gh ⟨x.cur, x.R⟩ [] := SessInv_congr s s' gh _ [] hsess hc.pred hc.sync hc.statuses hc.handles
  refine ⟨⟨⟨⟨gh, hsess'⟩, ?_, ?_⟩, gh, hsess',
    GlueInv_transfer s s' gh gh hg ho hc.handles hc.statuses (by rw [hc.sync]) rfl⟩, hc.sync ▸ hck⟩
  · show 0 < s'.sync.cells.length
    rw [hc.sync]; exact hw.ncells
  · show ∃ c, c.cur = s'.sync.currentFrame ∧ GInv step g0 s'.sync.cells.length x c ∧
      (∀ i, i < s'.sync.cells.length → c.tag i = (rget s'.sync.cells i).frame) ∧ ModeInv s' c
    unfold ModeInv
    rw [hc.sync, hc.sparse]; exact hw.chk

theorem CkRel_tick {G : Type} (step : G → List (Input × InputStatus) → G) (csf : G → Option Nat)
    (s' : P2P) (x : GS G) (n : Nat) (reqs' : List Request) (hn : s'.sync.cells.length = n) (hpos : 0 < n)
    (hck : CkRel csf s'.sync.cells x) (hs : ∀ f ∈ savedFrames reqs', 0 ≤ f) :
    CkRel csf (s'.userExecute (gameSaves step csf n x reqs')).sync.cells (execGs step n x reqs') := by
  obtain ⟨e1, e2⟩ := execSWs_userExecute step csf reqs' s'.sync x
  rw [hn] at e1 e2
  obtain ⟨h1, _⟩ := CkRel_execSWs step csf reqs' (s'.sync.cells, x) hck (by rw [hn]; exact hpos) hs
  unfold P2P.userExecute
  show CkRel csf (List.foldl (fun sy (p : Frame × Option Nat) => sy.userSave p.1 p.2) s'.sync (gameSaves step csf n x reqs')).cells _
  rw [← e1, ← e2]
  exact h1

theorem CkRel_call {G : Type} (step : G → List (Input × InputStatus) → G) (csf : G → Option Nat) (s s' : P2P)
    (x : GS G) (now : Nat) (pre reqs' : List Request) (c c' : CS)
    (hadv : s.advanceRollbackFrame now pre = .ok (s', reqs')) (hchk : ChkList s.sync.cells.length c reqs' c')
    (hn : 0 < s.sync.cells.length) (hck : CkRel csf s.sync.cells x) :
    CkRel csf (s'.userExecute (gameSaves step csf s.sync.cells.length x reqs')).sync.cells
      (execGs step s.sync.cells.length x reqs') := by
  have hcl := tick_cells s s' now pre reqs' hadv
  exact CkRel_tick step csf s' x _ reqs' (by rw [hcl]) hn (hcl ▸ hck) (chk_saved_nonneg _ c c' reqs' hchk)

theorem CInv2_step {G : Type} (step : G → List (Input × InputStatus) → G) (g0 : G) (csf : G → Option Nat)
    (a b : P2P × GS G) (h : CInv2 step g0 csf a) (hs : CWStep step csf a b) : CInv2 step g0 csf b := by
  obtain ⟨hd, hck⟩ := h
  cases hs with
  | remoteInput s s' x now inp player handles addr hnl h0 hev =>
    obtain ⟨hcl, _, _⟩ := remoteInput_cells s s' now inp player handles addr hev
    exact ⟨DWInv_step step g0 _ _ hd (DWStep.base _ _ (WStep.remoteInput s s' x now inp player handles addr hnl h0 hev)),
      hcl ▸ hck⟩
  | setDelay s s' x now handle delay r hloc hp hset =>
    have hd' := DWInv_step step g0 _ _ hd (DWStep.setDelay s s' x now handle delay r hloc hp hset)
    obtain ⟨_, gh, hsess, hg⟩ := hd
    obtain ⟨_, _, _, _, _, hcl, _⟩ := setInputDelay_spec s s' gh ⟨x.cur, x.R⟩ [] now handle delay r hsess hg hloc hp hset
    exact ⟨hd', hcl ▸ hck⟩
  | report s s' x now hrep => exact CInv2_netOnly step g0 csf s s' x ⟨hd, hck⟩ (report_fields s s' now hrep)
  | compare s x => exact CInv2_netOnly step g0 csf s _ x ⟨hd, hck⟩ (compare_fields s)
  | waitRec s s' x hw => exact CInv2_netOnly step g0 csf s s' x ⟨hd, hck⟩ (waitRec_fields s s' hw)
  | tick s s' x now reqs' hadv =>
    have hfr := gameSaves_frames step csf s.sync.cells.length reqs' x
    obtain ⟨_, ⟨c, c', _, hchk, _⟩, _⟩ := WInv_tick step g0 s s' x now reqs' _ hd.1 hadv hfr
    exact ⟨DWInv_step step g0 _ _ hd (DWStep.base _ _ (WStep.tick s s' x now reqs' _ hadv hfr)),
      CkRel_call step csf s s' x now [] reqs' c c' hadv hchk hd.1.ncells hck⟩
  | localInput s x handle input =>
    obtain ⟨l, hl⟩ := P2P.addLocalInput_pending s handle input
    exact ⟨DWInv_step step g0 _ _ hd (DWStep.base _ _ (WStep.localInput s x handle input)), hl ▸ hck⟩
  | tick0 s s' x now sy r reqs' hf0 hsv hadv =>
    have hfr := gameSaves_frames step csf s.sync.cells.length reqs' x
    obtain ⟨_, ⟨c, c', _, hchk, _⟩, _⟩ := WInv_tick0 step g0 s s' x now sy r reqs' _ hd.1 hf0 hsv hadv hfr
    have hws : WStep step (s, x) _ := WStep.tick0 s s' x now sy r reqs' _ hf0 hsv hadv hfr
    -- the extra save leaves the cells alone
    obtain ⟨_, rfl, _⟩ := SyncLayer.saveCurrentState_ok hsv
    have hck' := CkRel_call step csf _ s' x now [r] reqs' c c' hadv hchk hd.1.ncells hck
    exact ⟨DWInv_step step g0 _ _ hd (DWStep.base _ _ hws), hck'⟩

theorem CInv2_run {G : Type} (step : G → List (Input × InputStatus) → G) (g0 : G) (csf : G → Option Nat)
    (a b : P2P × GS G) (h : CInv2 step g0 csf a) (hr : CWStar step csf a b) : CInv2 step g0 csf b := by
  induction hr with
  | refl => exact h
  | step b c _ hs ih => exact CInv2_step step g0 csf b c ih hs

end Ggrs
