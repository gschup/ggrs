/-
The network side of a lockstep session: what it hands to its remote endpoints (L-glue) and to its
spectators (L-spechost), for every interleaving of the steps of `LkStep` (remote-input arrivals,
`add_local_input` calls, lockstep `advance_frame` calls) and, with `DLkStep`, of `set_input_delay` calls.
-/
import GgrsModel.Proofs.DelayStep

namespace Ggrs
open InputQueue

theorem rowMap_specs (gh gh' : Ghost) (N : Nat) (h : gh'.specs = gh.specs) : rowMap gh' N = rowMap gh N := by
  funext f; unfold rowMap; rw [h]

theorem Offers_specs (gh gh' : Ghost) (N now : Nat) (h : gh'.specs = gh.specs) (a b : P2P)
    (ho : Offers gh N now a b) : Offers gh' N now a b := by
  induction ho with
  | done s => exact Offers.done s
  | step s s1 s' f hf hoff _ ih => exact Offers.step s s1 s' f hf (by rw [rowMap_specs gh gh' N h]; exact hoff) ih

theorem lockstepAdvance_net {s s' : P2P} {g conf : Frame} {reqs reqs' : List Request}
    (h : s.lockstepAdvance g conf reqs = .ok (s', reqs')) :
    s'.nextSpectatorFrame = s.nextSpectatorFrame ∧ s'.outgoingLocalInputs = s.outgoingLocalInputs ∧
      s'.lastSentOutgoingInputFrame = s.lastSentOutgoingInputFrame := by
  rcases P2P.lockstepAdvance_ok h with ⟨_, rfl, _⟩ | ⟨_, _, _, _, _, rfl, _⟩
  · exact ⟨rfl, rfl, rfl⟩
  · exact ⟨rfl, rfl, rfl⟩

/-- One lockstep call: the local inputs go out as queue contents, the spectators are offered the
next frames up to `min(confirmed, consumed)` as rows of real inputs. -/
theorem lockstepTick_netX (s s' : P2P) (gh : Ghost) (t : TLState) (now : Nat) (reqs' : List Request)
    (h : LkInv s gh t) (hg : GlueInv s gh) (hn : 0 ≤ s.nextSpectatorFrame)
    (hadv : s.advanceLockstepFrame now [] = .ok (s', reqs')) :
    ∃ (gh1 gh' : Ghost) (sA sB sC sD : P2P), LkInv s' gh' (execReqs t reqs') ∧ GlueInv s' gh' ∧
      0 ≤ s'.nextSpectatorFrame ∧ gh'.specs = gh1.specs ∧
      (∀ p, PrefixOf (gh.specs p).vals (gh1.specs p).vals) ∧
      sA.lastSentOutgoingInputFrame = s.lastSentOutgoingInputFrame ∧ Sends gh1 now sA sB ∧
      s'.lastSentOutgoingInputFrame = sB.lastSentOutgoingInputFrame ∧
      sC.nextSpectatorFrame = s.nextSpectatorFrame ∧ Offers gh1 s.sync.queues.length now sC sD ∧
      s'.nextSpectatorFrame = sD.nextSpectatorFrame ∧
      (∀ p, p ∉ s.localPlayerHandles → gh'.specs p = gh.specs p) ∧ s'.handles = s.handles := by
  obtain ⟨s1, s2, s3, c1, c2, sy4, hreg, hc1, hstep, hc2, hspec, hset, rfl⟩ := P2P.advanceLockstepFrame_ok hadv
  obtain ⟨gh1, sA, hinv1, hg1, hk1, hlsA, hsends, hpre, hoth⟩ := registerLocalInputs_glueX s s1 gh t [] now h.sess hg hreg
  have hn1 : s1.nextSpectatorFrame = s.nextSpectatorFrame := P2P.registerLocalInputs_nsf _ _ _ hreg
  have hl1 : LkInv s1 gh1 t := h.grow hinv1 (registerLocalInputs_idle s s1 now h.idle hreg) hk1.cur hk1.nq hk1.grows
  obtain ⟨gh2, hl2, hsp2, hq2, hst2, hh2, _⟩ := lockstepMid_spec s1 s2 gh1 t c1 reqs' hl1 hc1 hstep
  obtain ⟨hn2, ho2, hls2⟩ := lockstepAdvance_net hstep
  have hg2 : GlueInv s2 gh2 := GlueInv_transfer s1 s2 gh1 gh2 hg1 ho2 hh2 hst2 hq2 hsp2
  have hn2' : 0 ≤ s2.nextSpectatorFrame := by rw [hn2, hn1]; exact hn
  obtain ⟨hoff, hnl1, _⟩ := sendConfirmed_rows s2 s3 gh2 _ [] now _ hl2.sess hn2' (hl2.confirmed_le hc2 _) hspec
  have hc3 := P2P.sendConfirmed_sameCore _ _ _ _ hspec
  obtain ⟨ho3, hls3⟩ := P2P.sendConfirmed_out _ _ _ _ hspec
  obtain ⟨hl4, _, hq4⟩ := lockstepTail_spec s2 s3 sy4 gh2 (execReqs t reqs') now c2 hl2 hc2 hspec hset
  refine ⟨gh1, gh2, sA, s1, s2, s3, hl4, GlueInv_transfer s2 _ gh2 gh2 hg2 ho3 hc3.handles hc3.statuses hq4 rfl,
    Int.le_trans hn2' hnl1, hsp2, hpre, hlsA, hsends, hls3.trans hls2, hn2.trans hn1, ?_, rfl, ?_, ?_⟩
  · rw [hq2, hk1.nq] at hoff
    exact Offers_specs gh2 gh1 _ now hsp2.symm s2 s3 hoff
  · intro p hp
    rw [hsp2]
    exact hoth p hp
  · show s3.handles = s.handles
    rw [hc3.handles, hh2, hk1.handles]

theorem lockstepTick_net (s s' : P2P) (gh : Ghost) (t : TLState) (now : Nat) (reqs' : List Request)
    (h : LkInv s gh t) (hg : GlueInv s gh) (hn : 0 ≤ s.nextSpectatorFrame)
    (hadv : s.advanceLockstepFrame now [] = .ok (s', reqs')) :
    ∃ (gh1 gh' : Ghost) (sA sB sC sD : P2P), LkInv s' gh' (execReqs t reqs') ∧ GlueInv s' gh' ∧
      0 ≤ s'.nextSpectatorFrame ∧ gh'.specs = gh1.specs ∧
      (∀ p, PrefixOf (gh.specs p).vals (gh1.specs p).vals) ∧
      sA.lastSentOutgoingInputFrame = s.lastSentOutgoingInputFrame ∧ Sends gh1 now sA sB ∧
      s'.lastSentOutgoingInputFrame = sB.lastSentOutgoingInputFrame ∧
      sC.nextSpectatorFrame = s.nextSpectatorFrame ∧ Offers gh1 s.sync.queues.length now sC sD ∧
      s'.nextSpectatorFrame = sD.nextSpectatorFrame := by
  obtain ⟨gh1, gh', sA, sB, sC, sD, a, b, c, d, e, f, g, i, j, k, l, _⟩ := lockstepTick_netX s s' gh t now reqs' h hg hn hadv
  exact ⟨gh1, gh', sA, sB, sC, sD, a, b, c, d, e, f, g, i, j, k, l⟩

def LkNetInv (x : P2P × TLState) : Prop :=
  (∃ gh, LkInv x.1 gh x.2 ∧ GlueInv x.1 gh) ∧ 0 ≤ x.1.nextSpectatorFrame

theorem LkNetInv_step (x y : P2P × TLState) (h : LkNetInv x) (hs : LkStep x y) : LkNetInv y := by
  obtain ⟨⟨gh, hl, hg⟩, hn⟩ := h
  cases hs with
  | remoteInput s s' t now inp player handles addr hnl h0 hev =>
    obtain ⟨gh', h', hg', _, hgrow, _⟩ := glue_remoteInputX s s' gh t now inp player handles addr hl.sess hg hnl h0 hev
    refine ⟨⟨gh', hl.remoteInput hev h' hgrow, hg'⟩, ?_⟩
    show 0 ≤ s'.nextSpectatorFrame
    rw [P2P.remoteInput_nsf s s' now inp player handles addr hev]
    exact hn
  | tick s s' t now reqs' hadv =>
    obtain ⟨_, gh', _, _, _, _, hl', hg', hn', _⟩ := lockstepTick_net s s' gh t now reqs' hl hg hn hadv
    exact ⟨⟨gh', hl', hg'⟩, hn'⟩
  | localInput s t handle input =>
    obtain ⟨l, hl'⟩ := P2P.addLocalInput_pending s handle input
    show LkNetInv ((s.addLocalInput handle input).1, t)
    rw [hl']
    exact ⟨⟨gh, hl.pending l, GlueInv_pending s gh l hg⟩, hn⟩

theorem LkNetInv_run (x y : P2P × TLState) (h : LkNetInv x) (hr : LkStar x y) : LkNetInv y := by
  induction hr with
  | refl => exact h
  | step y z _ hs ih => exact LkNetInv_step y z ih hs

theorem delayFillLoop_idle (li : PlayerInput) : ∀ (n : Nat) (q q' : InputQueue) (fills fills' : List PlayerInput),
    Idle q → delayFillLoop li n q fills = .ok (q', fills') → Idle q' := by
  intro n
  induction n with
  | zero => intro q q' f f' h hl; cases hl; exact h
  | succ k ih =>
    intro q q' f f' h hl
    obtain ⟨q1, h1, hl⟩ := bind_ok hl
    exact ih q1 q' _ f' (addByFrame_idle q q1 li _ h h1) hl

theorem setFrameDelay_idle (q q' : InputQueue) (d : Nat) (fills : List PlayerInput) (h : Idle q)
    (hs : q.setFrameDelay d = .ok (q', fills)) : Idle q' := by
  by_cases hla : q.lastAddedFrame = NULL_FRAME
  · rw [InputQueue.setFrameDelay_blank d hla] at hs
    obtain ⟨rfl, _⟩ := Prod.mk.inj (Except.ok.inj hs)
    exact h
  · rw [InputQueue.setFrameDelay_started d hla] at hs
    exact delayFillLoop_idle _ _ ({ q with frameDelay := d } : InputQueue) q' _ fills h hs

theorem setInputDelay_idle (s s' : P2P) (now handle delay : Nat) (r : Except GgrsError Unit)
    (hi : AllIdle s.sync.queues) (hp : handle < s.sync.queues.length)
    (hset : s.setInputDelay now handle delay = .ok (s', r)) : AllIdle s'.sync.queues := by
  rcases P2P.setInputDelay_ok hset with rfl | ⟨q', fl, s2, hq, hfold, hsend⟩
  · exact hi
  · rw [(P2P.sendReady_sameCore _ _ _ hsend).sync, (fillsFold_df handle _ _ s2 hfold).2.2.2]
    exact AllIdle_rset _ _ _ hi (setFrameDelay_idle _ q' delay fl (hi handle hp) hq)

/-- Steps of a lockstep session including run-time delay changes. -/
inductive DLkStep : (P2P × TLState) → (P2P × TLState) → Prop
  | base (x y : P2P × TLState) : LkStep x y → DLkStep x y
  | setDelay (s s' : P2P) (t : TLState) (now handle delay : Nat) (r : Except GgrsError Unit) :
      handle ∈ s.localPlayerHandles → handle < s.sync.queues.length →
      s.setInputDelay now handle delay = .ok (s', r) → DLkStep (s, t) (s', t)

inductive DLkStar : (P2P × TLState) → (P2P × TLState) → Prop
  | refl (x : P2P × TLState) : DLkStar x x
  | step (x y z : P2P × TLState) : DLkStar x y → DLkStep y z → DLkStar x z

theorem LkNetInv_dstep (x y : P2P × TLState) (h : LkNetInv x) (hs : DLkStep x y) : LkNetInv y := by
  cases hs with
  | base _ _ hl => exact LkNetInv_step x y h hl
  | setDelay s s' t now handle delay r hloc hp hset =>
    obtain ⟨⟨gh, hl, hg⟩, hn⟩ := h
    obtain ⟨gh', hinv', hg', hcase, hcur, _, _, _, hnsf, _, _, _, hq⟩ :=
      setInputDelay_spec s s' gh t [] now handle delay r hl.sess hg hloc hp hset
    refine ⟨⟨gh', hl.grow hinv' (setInputDelay_idle s s' now handle delay r hl.idle hp hset) hcur hq fun p => ?_, hg'⟩, ?_⟩
    · exact (ghDelay_cases hcase p).2.1
    · show 0 ≤ s'.nextSpectatorFrame
      rw [hnsf]
      exact hn

theorem LkNetInv_drun (x y : P2P × TLState) (h : LkNetInv x) (hr : DLkStar x y) : LkNetInv y := by
  induction hr with
  | refl => exact h
  | step y z _ hs ih => exact LkNetInv_dstep y z ih hs

end Ggrs
