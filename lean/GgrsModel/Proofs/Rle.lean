/-
Run-length layer: `rle_decode (bitfield_rle::encode buf) = buf`.

The encoder's output is a concatenation of well-formed chunks (ghost list `cs`) whose data,
followed by the run still pending in the encoder state, is the consumed prefix.
-/
import GgrsModel.Proofs.Varint

namespace Ggrs.Codec

inductive Chunk where
  | run (len : Nat) (ff : Bool)
  | lit (bs : Bytes)

def Chunk.enc : Chunk → Bytes
  | .run len ff => varintEncode (len * 4 + 1 + (if ff then 2 else 0))
  | .lit bs => varintEncode (bs.length * 2) ++ bs

def Chunk.data : Chunk → Bytes
  | .run len ff => List.replicate len (if ff then 255 else 0)
  | .lit bs => bs

def encAll : List Chunk → Bytes
  | [] => []
  | c :: cs => c.enc ++ encAll cs

def dataAll : List Chunk → Bytes
  | [] => []
  | c :: cs => c.data ++ dataAll cs

theorem encAll_append (a b : List Chunk) : encAll (a ++ b) = encAll a ++ encAll b := by
  induction a with
  | nil => rfl
  | cons c cs ih => simp [encAll, ih]

theorem dataAll_append (a b : List Chunk) : dataAll (a ++ b) = dataAll a ++ dataAll b := by
  induction a with
  | nil => rfl
  | cons c cs ih => simp [dataAll, ih]

theorem Chunk.enc_ne_nil (c : Chunk) : c.enc ≠ [] := by
  cases c with
  | run len ff => exact varintEncode_ne_nil _
  | lit bs =>
    simp only [Chunk.enc]
    intro h
    have := varintEncode_ne_nil (bs.length * 2)
    simp_all

theorem length_le_encAll (cs : List Chunk) : cs.length ≤ (encAll cs).length := by
  induction cs with
  | nil => simp [encAll]
  | cons c cs ih =>
    have : 0 < c.enc.length := List.length_pos_iff.mpr (Chunk.enc_ne_nil c)
    simp [encAll]; omega

theorem mem_dataAll_le {c : Chunk} {cs : List Chunk} (h : c ∈ cs) :
    c.data.length ≤ (dataAll cs).length := by
  induction cs with
  | nil => cases h
  | cons d ds ih =>
    simp only [dataAll, List.length_append]
    rcases List.mem_cons.mp h with rfl | h
    · omega
    · have := ih h; omega

theorem takeExact_append : ∀ (bs X acc : Bytes),
    takeExact bs.length (bs ++ X) acc = some (bs.reverse ++ acc, X) := by
  intro bs
  induction bs with
  | nil => intro X acc; simp [takeExact]
  | cons b bs ih => intro X acc; simp [takeExact, ih]

theorem takeExact_length (n : Nat) (l acc t r : Bytes) (h : takeExact n l acc = some (t, r)) :
    t.length = n + acc.length ∧ r.length + n = l.length := by
  fun_induction takeExact n l acc with
  | case1 l acc =>
    obtain ⟨rfl, rfl⟩ := Prod.mk.inj (Option.some.inj h)
    exact ⟨(Nat.zero_add _).symm, rfl⟩
  | case2 => cases h
  | case3 n x xs acc ih =>
    obtain ⟨h1, h2⟩ := ih h
    rw [List.length_cons] at h1 ⊢
    omega

theorem rleDecodeLoop_nil (k : Nat) (out : Bytes) (room : Nat) :
    rleDecodeLoop k [] out room = .ok out.reverse := by
  cases k <;> simp [rleDecodeLoop]

theorem isEmpty_enc_append (c : Chunk) (rest : Bytes) : (c.enc ++ rest).isEmpty = false := by
  cases h : c.enc with
  | nil => exact absurd h c.enc_ne_nil
  | cons _ _ => rfl

/-- How the decoder reads a header `len * 4 + r` (kind bit, fill bit, length). -/
theorem run_header (len r : Nat) (hr : r < 4) :
    (len * 4 + r) % 2 = r % 2 ∧ (len * 4 + r) / 4 = len ∧ (len * 4 + r) / 2 % 2 = r / 2 % 2 := by
  refine ⟨?_, ?_, ?_⟩
  · rw [Nat.add_mod, Nat.mul_mod, Nat.mul_zero, Nat.zero_mod, Nat.zero_add, Nat.mod_mod]
  · rw [Nat.mul_comm, Nat.mul_add_div (by decide), Nat.div_eq_of_lt hr, Nat.add_zero]
  · rw [show len * 4 = 2 * (len * 2) by omega, Nat.mul_add_div Nat.zero_lt_two, Nat.add_mod, Nat.mul_mod_left,
      Nat.zero_add, Nat.mod_mod]

theorem rleDecodeLoop_chunk (c : Chunk) (k : Nat) (rest out : Bytes) (room : Nat)
    (hc : c.data.length < 2 ^ 61) (hroom : c.data.length ≤ room) :
    rleDecodeLoop (k + 1) (c.enc ++ rest) out room
      = rleDecodeLoop k rest (c.data.reverse ++ out) (room - c.data.length) := by
  rw [rleDecodeLoop, isEmpty_enc_append]
  cases c with
  | run len ff =>
    rw [Chunk.data, List.length_replicate] at hc hroom
    have hr : 1 + (if ff then 2 else 0) < 4 := by cases ff <;> decide
    obtain ⟨h2, h4, hf⟩ := run_header len _ hr
    rw [Chunk.enc, Nat.add_assoc, readHeader_varintEncode _ _ (by omega)]
    simp only [h2, h4, hf, Nat.not_lt.mpr hroom, if_false, Chunk.data, List.reverse_replicate, List.length_replicate]
    cases ff <;> rfl
  | lit bs =>
    rw [Chunk.data] at hc hroom
    rw [Chunk.enc, List.append_assoc, readHeader_varintEncode _ _ (by omega)]
    simp only [Nat.mul_mod_left, Nat.mul_div_cancel _ (Nat.zero_lt_two), takeExact_append, List.append_nil,
      Nat.not_lt.mpr hroom, if_false, Chunk.data]
    rfl

theorem rleDecodeLoop_chunks : ∀ (cs : List Chunk) (k : Nat) (rest out : Bytes) (room : Nat),
    (∀ c ∈ cs, c.data.length < 2 ^ 61) →
    (dataAll cs).length ≤ room →
    rleDecodeLoop (cs.length + k) (encAll cs ++ rest) out room
      = rleDecodeLoop k rest ((dataAll cs).reverse ++ out) (room - (dataAll cs).length) := by
  intro cs
  induction cs with
  | nil => intro k rest out room _ _; simp [encAll, dataAll]
  | cons c cs ih =>
    intro k rest out room hok hcap
    rw [dataAll, List.length_append] at hcap
    rw [List.length_cons, Nat.add_right_comm, encAll, List.append_assoc,
      rleDecodeLoop_chunk c _ _ _ _ (hok c List.mem_cons_self) (by omega),
      ih k rest _ _ (fun d hd => hok d (List.mem_cons_of_mem _ hd)) (by omega),
      dataAll, List.reverse_append, List.append_assoc, List.length_append, Nat.sub_sub]

def pending (st : RleEncState) : Bytes :=
  if st.contiguous then List.replicate st.len st.prevBits else st.noncontiguous

structure EncInv (st : RleEncState) (i : Nat) (pre : Bytes) : Prop where
  chunks : ∃ cs, st.enc = encAll cs ∧ dataAll cs ++ pending st = pre
  nc : (st.contiguous = true ∨ i = 0) → st.noncontiguous = []
  pb : st.contiguous = true → st.prevBits = 0 ∨ st.prevBits = 255
  idx : i = pre.length

theorem fill_eq {p : UInt8} (h : p = 0 ∨ p = 255) : (if (p == 255) = true then (255 : UInt8) else 0) = p := by
  rcases h with rfl | rfl <;> decide

theorem Chunk.data_run {p : UInt8} (h : p = 0 ∨ p = 255) (len : Nat) :
    (Chunk.run len (p == 255)).data = List.replicate len p := by
  rw [Chunk.data, fill_eq h]

theorem writeContiguous_chunk (cs : List Chunk) (len : Nat) (p : UInt8) :
    writeContiguous (encAll cs) len p = encAll (cs ++ [Chunk.run len (p == 255)]) := by
  simp [writeContiguous, encAll_append, encAll, Chunk.enc]

theorem writeNoncontiguous_chunk (cs : List Chunk) (bits : Bytes) :
    writeNoncontiguous (encAll cs) bits = encAll (cs ++ [Chunk.lit bits]) := by
  simp [writeNoncontiguous, encAll_append, encAll, Chunk.enc]

theorem fill_iff (b : UInt8) : (b == 0 || b == 255) = true ↔ b = 0 ∨ b = 255 := by simp

theorem encInv_step (st : RleEncState) (i : Nat) (pre : Bytes) (b : UInt8)
    (h : EncInv st i pre) : EncInv (rleEncStep st i b) (i + 1) (pre ++ [b]) := by
  obtain ⟨⟨cs, henc, hdata⟩, hnc, hpb, hidx⟩ := h
  rcases st with ⟨enc, len, cont, prev, ncb⟩
  simp only at henc hnc hpb
  simp only [pending] at hdata
  have hidx' : i + 1 = (pre ++ [b]).length := by rw [List.length_append, hidx]; rfl
  subst henc
  cases cont with
  | true =>
    have hncb : ncb = [] := hnc (Or.inl rfl)
    have hprev := hpb rfl
    subst hncb
    simp only [if_true] at hdata
    cases hbeq : b == prev with
    | true =>
      obtain rfl : b = prev := eq_of_beq hbeq
      have hstep : rleEncStep ⟨encAll cs, len, true, b, []⟩ i b = ⟨encAll cs, len + 1, true, b, []⟩ := by
        simp [rleEncStep]
      rw [hstep]
      refine ⟨⟨cs, rfl, ?_⟩, fun _ => rfl, fun _ => hprev, hidx'⟩
      simp only [pending, if_true, List.replicate_succ', ← hdata, List.append_assoc]
    | false =>
      by_cases hz : (b == 0 || b == 255) = true
      · have hstep : rleEncStep ⟨encAll cs, len, true, prev, []⟩ i b =
            ⟨encAll (cs ++ [Chunk.run len (prev == 255)]), 1, true, b, []⟩ := by
          simp [rleEncStep, hbeq, hz, writeContiguous_chunk]
        rw [hstep]
        refine ⟨⟨_, rfl, ?_⟩, fun _ => rfl, fun _ => (fill_iff b).mp hz, hidx'⟩
        simp [pending, dataAll_append, dataAll, Chunk.data_run hprev, ← hdata]
      · have hz' : (b == 0 || b == 255) = false := Bool.eq_false_iff.mpr hz
        have hstep : rleEncStep ⟨encAll cs, len, true, prev, []⟩ i b =
            ⟨encAll (cs ++ [Chunk.run len (prev == 255)]), len, false, prev, [b]⟩ := by
          simp [rleEncStep, hbeq, hz', writeContiguous_chunk]
        rw [hstep]
        refine ⟨⟨_, rfl, ?_⟩, nofun, nofun, hidx'⟩
        simp [pending, dataAll_append, dataAll, Chunk.data_run hprev, ← hdata]
  | false =>
    simp only [Bool.false_eq_true, if_false] at hdata
    by_cases hz : (b == 0 || b == 255) = true
    · by_cases hi : i > 0
      · have hstep : rleEncStep ⟨encAll cs, len, false, prev, ncb⟩ i b =
            ⟨encAll (cs ++ [Chunk.lit ncb]), 1, true, b, []⟩ := by
          simp [rleEncStep, hz, hi, writeNoncontiguous_chunk]
        rw [hstep]
        refine ⟨⟨_, rfl, ?_⟩, fun _ => rfl, fun _ => (fill_iff b).mp hz, hidx'⟩
        simp [pending, dataAll_append, dataAll, Chunk.data, ← hdata]
      · -- very first byte starts a run; nothing to flush
        have hi0 : i = 0 := by omega
        have hncb : ncb = [] := hnc (Or.inr hi0)
        subst hncb
        have hstep : rleEncStep ⟨encAll cs, len, false, prev, []⟩ i b = ⟨encAll cs, 1, true, b, []⟩ := by
          simp [rleEncStep, hz, hi0]
        rw [hstep]
        refine ⟨⟨cs, rfl, ?_⟩, fun _ => rfl, fun _ => (fill_iff b).mp hz, hidx'⟩
        simp [pending, ← hdata]
    · have hz' : (b == 0 || b == 255) = false := Bool.eq_false_iff.mpr hz
      have hstep : rleEncStep ⟨encAll cs, len, false, prev, ncb⟩ i b =
          ⟨encAll cs, len, false, prev, ncb ++ [b]⟩ := by
        simp [rleEncStep, hz']
      rw [hstep]
      refine ⟨⟨cs, rfl, ?_⟩, nofun, nofun, hidx'⟩
      simp [pending, ← hdata]

theorem encInv_loop : ∀ (bytes : Bytes) (st : RleEncState) (i : Nat) (pre : Bytes),
    EncInv st i pre → EncInv (rleEncLoop st i bytes) (i + bytes.length) (pre ++ bytes) := by
  intro bytes
  induction bytes with
  | nil => intro st i pre h; simpa [rleEncLoop] using h
  | cons b bs ih =>
    intro st i pre h
    have := ih _ _ _ (encInv_step st i pre b h)
    simp only [rleEncLoop, List.length_cons]
    have e1 : i + (bs.length + 1) = i + 1 + bs.length := by omega
    have e2 : pre ++ b :: bs = pre ++ [b] ++ bs := by simp
    rw [e1, e2]; exact this

theorem encInv_init : EncInv {} 0 [] := by
  refine ⟨⟨[], rfl, ?_⟩, ?_, ?_, rfl⟩
  · simp [dataAll, pending]
  · intro _; rfl
  · intro h; cases h

theorem rleEncode_chunks (buf : Bytes) :
    ∃ cs, rleEncode buf = encAll cs ∧ dataAll cs = buf := by
  have h := encInv_loop buf {} 0 [] encInv_init
  simp only [List.nil_append] at h
  obtain ⟨⟨cs, henc, hdata⟩, _, hpb, _⟩ := h
  unfold rleEncode rleEncFinish
  generalize rleEncLoop {} 0 buf = st at *
  rcases st with ⟨enc, len, cont, prev, ncb⟩
  simp only at henc hpb
  simp only [pending] at hdata
  subst henc
  cases cont with
  | true =>
    refine ⟨cs ++ [Chunk.run len (prev == 255)], ?_, ?_⟩
    · simp [writeContiguous_chunk]
    · simp only [if_true] at hdata
      simp [dataAll_append, dataAll, Chunk.data_run (hpb rfl), hdata]
  | false =>
    refine ⟨cs ++ [Chunk.lit ncb], ?_, ?_⟩
    · simp [writeNoncontiguous_chunk]
    · simp only [Bool.false_eq_true, if_false] at hdata
      simp [dataAll_append, dataAll, Chunk.data, hdata]

/-- The run-length half of C14's round trip; the cap is the one `rle_decode` enforces on its output. -/
theorem rle_roundtrip (buf : Bytes) (hlen : buf.length ≤ MAX_DECODED_BYTES) :
    rleDecode (rleEncode buf) = .ok buf := by
  obtain ⟨cs, henc, hdata⟩ := rleEncode_chunks buf
  have hmax : MAX_DECODED_BYTES < 2 ^ 61 := by decide
  have hok : ∀ c ∈ cs, c.data.length < 2 ^ 61 := by
    intro c hc
    have := mem_dataAll_le hc
    rw [hdata] at this
    omega
  unfold rleDecode
  rw [henc]
  have hfuel := length_le_encAll cs
  obtain ⟨k, hk⟩ : ∃ k, (encAll cs).length = cs.length + k := ⟨_, (Nat.add_sub_cancel' hfuel).symm⟩
  rw [hk]
  have := rleDecodeLoop_chunks cs k [] [] MAX_DECODED_BYTES hok (by rw [hdata]; exact hlen)
  simp only [List.append_nil] at this
  rw [this, rleDecodeLoop_nil, hdata, List.reverse_reverse]

end Ggrs.Codec
