/-
L-detect: the prediction side of `InputQueue`. `strip` forgets the prediction fields and every queue
operation commutes with it on the ring fields, so the ring refinement of `Proofs/Queue.lean` carries
over to predicting queues. `PT` ties `prediction`, `first_incorrect_frame`, `last_requested_frame`,
`tail` and `length` to the stream and to the history `H` of predicted values the queue has handed
out since the last `reset_prediction`.
-/
import GgrsModel.Proofs.Queue

namespace Ggrs
namespace InputQueue

def strip (q : InputQueue) : InputQueue :=
  { q with prediction := { q.prediction with frame := NULL_FRAME }, firstIncorrectFrame := NULL_FRAME }

theorem strip_strip (q : InputQueue) : q.strip.strip = q.strip := rfl

theorem addByFrame_fields (q q' : InputQueue) (inp : PlayerInput) (f : Frame)
    (h : q.addInputByFrame inp f = .ok q') :
    q'.lastRequestedFrame = q.lastRequestedFrame ∧ q'.prediction.input = q.prediction.input ∧
    q'.tail = q.tail ∧ q'.length = q.length + 1 ∧ q.length + 1 ≤ INPUT_QUEUE_LENGTH ∧
    q'.lastAddedFrame = f ∧
    (q.prediction.frame = NULL_FRAME → q'.prediction.frame = NULL_FRAME ∧ q'.firstIncorrectFrame = q.firstIncorrectFrame) ∧
    (q.prediction.frame ≠ NULL_FRAME → f = q.prediction.frame ∧
      q'.firstIncorrectFrame =
        (if q.firstIncorrectFrame = NULL_FRAME ∧ q.prediction.input ≠ inp.input then f else q.firstIncorrectFrame) ∧
      q'.prediction.frame =
        (if q.prediction.frame = q.lastRequestedFrame ∧
            (if q.firstIncorrectFrame = NULL_FRAME ∧ q.prediction.input ≠ inp.input then f else q.firstIncorrectFrame) = NULL_FRAME
         then NULL_FRAME else q.prediction.frame + 1)) := by
  obtain ⟨_, _, hlen, hpf, rfl⟩ := addInputByFrame_eq_ok.mp h
  refine ⟨rfl, rfl, rfl, rfl, hlen, rfl, fun hp => ⟨if_pos (Or.inl hp), if_neg fun hc => hc.1 hp⟩,
    fun hp => ⟨hpf hp, ?_, ?_⟩⟩
  · simp only [ne_eq, hp, not_false_eq_true, true_and]
  · simp only [hp, false_or]

theorem addByFrame_strip (q q' : InputQueue) (inp : PlayerInput) (f : Frame)
    (h : q.addInputByFrame inp f = .ok q') : q.strip.addInputByFrame inp f = .ok q'.strip := by
  obtain ⟨h1, h2, h3, _, rfl⟩ := addInputByFrame_eq_ok.mp h
  refine addInputByFrame_eq_ok.mpr ⟨h1, h2, h3, fun hc => absurd rfl hc, ?_⟩
  simp only [strip, ne_eq, not_true_eq_false, false_and, if_false, true_or, if_true]

theorem input_ok {pr : Predictor} {q q' : InputQueue} {req : Frame} {v : Input} {st : InputStatus}
    (h : q.input pr req = .ok (q', v, st)) :
    q.firstIncorrectFrame = NULL_FRAME ∧ (rget q.inputs q.tail).frame ≤ req ∧
    ((q.prediction.frame < 0 ∧ (req - (rget q.inputs q.tail).frame).toNat < q.length ∧
        (rget q.inputs (((req - (rget q.inputs q.tail).frame).toNat + q.tail) % INPUT_QUEUE_LENGTH)).frame = req ∧
        q' = { q with lastRequestedFrame := req } ∧
        v = (rget q.inputs (((req - (rget q.inputs q.tail).frame).toNat + q.tail) % INPUT_QUEUE_LENGTH)).input ∧
        st = .confirmed) ∨
     (q.prediction.frame < 0 ∧ ¬ (req - (rget q.inputs q.tail).frame).toNat < q.length ∧
        q' = { q with lastRequestedFrame := req, prediction :=
          if req = 0 ∨ q.lastAddedFrame = NULL_FRAME then ⟨q.prediction.frame + 1, 0⟩
          else ⟨(rget q.inputs (prevPos q.head)).frame + 1, pr.predict (rget q.inputs (prevPos q.head)).input⟩ } ∧
        v = q'.prediction.input ∧ st = .predicted) ∨
     (¬ q.prediction.frame < 0 ∧ q' = { q with lastRequestedFrame := req } ∧ v = q.prediction.input ∧
        st = .predicted)) := by
  unfold input at h
  simp only [ensure_bind_eq_ok, beq_iff_eq, decide_eq_true_eq, ge_iff_le] at h
  obtain ⟨hfi, hge, h⟩ := h
  refine ⟨hfi, hge, ?_⟩
  by_cases hp : q.prediction.frame < 0
  · rw [if_pos hp] at h
    by_cases ho : (req - (rget q.inputs q.tail).frame).toNat < q.length
    · rw [if_pos ho] at h
      simp only [ensure_bind_eq_ok, beq_iff_eq, pure_eq_ok, Prod.mk.injEq] at h
      obtain ⟨h1, rfl, rfl, rfl⟩ := h
      exact Or.inl ⟨hp, ho, h1, rfl, rfl, rfl⟩
    · rw [if_neg ho] at h
      refine Or.inr (Or.inl ⟨hp, ho, ?_⟩)
      simp only [Bool.or_eq_true, beq_iff_eq] at h
      by_cases hz : req = 0 ∨ q.lastAddedFrame = NULL_FRAME
      · simp only [hz, if_true, ensure_bind_eq_ok, pure_eq_ok, Prod.mk.injEq] at h ⊢
        obtain ⟨_, rfl, rfl, rfl⟩ := h
        exact ⟨rfl, rfl, rfl⟩
      · simp only [hz, if_false, ensure_bind_eq_ok, pure_eq_ok, Prod.mk.injEq] at h ⊢
        obtain ⟨_, rfl, rfl, rfl⟩ := h
        exact ⟨rfl, rfl, rfl⟩
  · rw [if_neg hp] at h
    simp only [ensure_bind_eq_ok, pure_eq_ok, Prod.mk.injEq] at h
    obtain ⟨_, rfl, rfl, rfl⟩ := h
    exact Or.inr (Or.inr ⟨hp, rfl, rfl, rfl⟩)

theorem discardConfirmedFrames_ok {q q' : InputQueue} {f : Frame} (h : q.discardConfirmedFrames f = .ok q') :
    ∃ f', f' ≤ f ∧
      ((q.lastAddedFrame ≤ f' ∧ q' = { q with tail := q.head, length := 1 }) ∨
       (f' < q.lastAddedFrame ∧ f' ≤ (rget q.inputs q.tail).frame ∧ q' = q) ∨
       (f' < q.lastAddedFrame ∧ (rget q.inputs q.tail).frame < f' ∧
         (f' - (rget q.inputs q.tail).frame).toNat ≤ q.length ∧
         q' = { q with tail := (q.tail + (f' - (rget q.inputs q.tail).frame).toNat) % INPUT_QUEUE_LENGTH,
                       length := q.length - (f' - (rget q.inputs q.tail).frame).toNat })) := by
  unfold discardConfirmedFrames at h
  simp only at h
  have hf' : (if (q.lastRequestedFrame != NULL_FRAME) = true then min f q.lastRequestedFrame else f) ≤ f := by
    split
    · exact Int.min_le_left _ _
    · exact Int.le_refl _
  generalize (if (q.lastRequestedFrame != NULL_FRAME) = true then min f q.lastRequestedFrame else f) = f' at h hf'
  refine ⟨f', hf', ?_⟩
  by_cases h1 : f' ≥ q.lastAddedFrame
  · rw [if_pos h1] at h
    exact Or.inl ⟨h1, (Except.ok.inj h).symm⟩
  rw [if_neg h1] at h
  by_cases h2 : f' ≤ (rget q.inputs q.tail).frame
  · rw [if_pos h2] at h
    exact Or.inr (Or.inl ⟨Int.not_le.mp h1, h2, (Except.ok.inj h).symm⟩)
  rw [if_neg h2] at h
  by_cases h3 : (f' - (rget q.inputs q.tail).frame).toNat > q.length
  · rw [if_pos h3] at h
    cases h
  rw [if_neg h3] at h
  exact Or.inr (Or.inr ⟨Int.not_le.mp h1, Int.not_le.mp h2, Nat.le_of_not_lt h3, (Except.ok.inj h).symm⟩)

end InputQueue
end Ggrs

namespace Ggrs
open InputQueue

theorem Refines.strip {q : InputQueue} {s : QSpec} (h : Refines q s) : Refines q.strip s :=
  h.congr (by rw [h.noPrediction]; rfl)

theorem Refines.of_strip {q : InputQueue} {s : QSpec} (h : Refines q.strip s) (hp : q.prediction.frame = NULL_FRAME) :
    Refines q s :=
  h.congr (by rw [hp]; rfl)

/-- History of predicted values handed out since the last `reset_prediction`: (frame, value). -/
abbrev Hist := List (Int × Input)

def FirstMismatch (vals : List Input) (pv : Input) (start : Nat) (fi : Frame) : Prop :=
  (fi = NULL_FRAME ∧ ∀ g : Nat, start ≤ g → g < vals.length → vals.getD g 0 = pv) ∨
  (∃ g : Nat, fi = (g : Int) ∧ start ≤ g ∧ g < vals.length ∧ vals.getD g 0 ≠ pv ∧
    ∀ g' : Nat, start ≤ g' → g' < g → vals.getD g' 0 = pv)

/-- The part of the ring the queue regards as valid: frames `t .. vals.length-1`. -/
def TailOk (q : InputQueue) (n : Nat) : Prop :=
  (n = 0 ∧ q.tail = 0 ∧ q.length = 0) ∨
  ∃ t : Nat, t < n ∧ n ≤ t + INPUT_QUEUE_LENGTH ∧ q.tail = t % INPUT_QUEUE_LENGTH ∧ q.length = n - t

def predValue (pr : Predictor) (vals : List Input) : Input :=
  if vals.length = 0 then 0 else pr.predict (vals.getLast?.getD 0)

/-- Prediction state against the stream and the history: not predicting, or predicting since a request
made when the stream had `start` entries (the later ones are compared with the prediction as they
arrive). -/
def PredOk (pr : Predictor) (q : InputQueue) (vals : List Input) (H : Hist) : Prop :=
  (q.prediction.frame = NULL_FRAME ∧ q.firstIncorrectFrame = NULL_FRAME ∧
    ∀ p ∈ H, 0 ≤ p.1 ∧ p.1 < vals.length ∧ vals.getD p.1.toNat 0 = p.2) ∨
  (∃ start : Nat, start ≤ vals.length ∧ q.prediction.frame = (vals.length : Int) ∧
    (start : Int) ≤ q.lastRequestedFrame ∧
    (∀ p ∈ H, (0 ≤ p.1 ∧ p.1 < start ∧ vals.getD p.1.toNat 0 = p.2) ∨
              ((start : Int) ≤ p.1 ∧ p.1 ≤ q.lastRequestedFrame ∧ p.2 = q.prediction.input)) ∧
    FirstMismatch vals q.prediction.input start q.firstIncorrectFrame ∧
    (q.firstIncorrectFrame = NULL_FRAME →
      (vals.length : Int) ≤ q.lastRequestedFrame ∧ q.prediction.input = predValue pr vals))

structure PT (pr : Predictor) (q : InputQueue) (vals : List Input) (H : Hist) : Prop where
  tail : TailOk q vals.length
  pred : PredOk pr q vals H

theorem predValue_idem (pr : Predictor) (vals : List Input) :
    predValue pr (vals ++ [predValue pr vals]) = predValue pr vals := by
  unfold predValue
  simp only [List.length_append, List.length_cons, List.length_nil, Nat.add_eq_zero_iff, Nat.succ_ne_self,
    and_false, if_false, List.getLast?_append, List.getLast?_singleton, Option.some_or, Option.getD_some]
  cases pr with
  | repeatLast => simp only [Predictor.predict]
  | default => simp [Predictor.predict]

theorem TailOk_push {q q' : InputQueue} {n : Nat} (h : TailOk q n) (ht : q'.tail = q.tail)
    (hl : q'.length = q.length + 1) (hcap : q.length + 1 ≤ INPUT_QUEUE_LENGTH) : TailOk q' (n + 1) := by
  rcases h with ⟨h0, ht0, hl0⟩ | ⟨t, ht1, hw, htt, hl1⟩
  · have : 0 < n + 1 ∧ n + 1 ≤ 0 + INPUT_QUEUE_LENGTH ∧ q'.length = n + 1 - 0 := by omega
    exact Or.inr ⟨0, this.1, this.2.1, by rw [ht, ht0]; rfl, this.2.2⟩
  · have : n + 1 ≤ t + INPUT_QUEUE_LENGTH ∧ q'.length = n + 1 - t := by omega
    exact Or.inr ⟨t, Nat.lt_succ_of_lt ht1, this.1, ht.trans htt, this.2⟩

theorem TailOk_drop {q q' : InputQueue} {n t k : Nat} (htk : t ≤ k) (hk : k < n) (hw : n ≤ t + INPUT_QUEUE_LENGTH)
    (htt : q.tail = t % INPUT_QUEUE_LENGTH) (hl : q.length = n - t)
    (ht' : q'.tail = (q.tail + (k - t)) % INPUT_QUEUE_LENGTH) (hl' : q'.length = q.length - (k - t)) :
    TailOk q' n := by
  exact Or.inr ⟨k, hk, Nat.le_trans hw (Nat.add_le_add_right htk _), by rw [ht', htt, Nat.add_comm, mod_offset htk],
    by rw [hl', hl, Nat.sub_sub_sub_cancel_right htk]⟩

theorem confirmed_snoc {vals : List Input} {p : Int × Input} {n : Nat} (x : Input) (hn : n ≤ vals.length)
    (h : 0 ≤ p.1 ∧ p.1 < n ∧ vals.getD p.1.toNat 0 = p.2) :
    0 ≤ p.1 ∧ p.1 < (vals ++ [x]).length ∧ (vals ++ [x]).getD p.1.toNat 0 = p.2 := by
  refine ⟨h.1, by rw [List.length_append]; omega, ?_⟩
  rw [getD_append_lt _ _ _ (by omega)]
  exact h.2.2

theorem predicted_verified {vals : List Input} {pv : Input} {start n : Nat} {p : Int × Input}
    (hall : ∀ g : Nat, start ≤ g → g < n → vals.getD g 0 = pv)
    (a : (start : Int) ≤ p.1) (b : p.1 < n) (c : p.2 = pv) :
    0 ≤ p.1 ∧ p.1 < n ∧ vals.getD p.1.toNat 0 = p.2 :=
  ⟨by omega, b, by rw [c]; exact hall p.1.toNat (by omega) (by omega)⟩

theorem FirstMismatch_snoc {vals : List Input} {pv : Input} {start : Nat} {fi : Frame} (x : Input)
    (h : FirstMismatch vals pv start fi) (hs : start ≤ vals.length) :
    FirstMismatch (vals ++ [x]) pv start (if fi = NULL_FRAME ∧ pv ≠ x then (vals.length : Int) else fi) := by
  rcases h with ⟨hfin, hall⟩ | ⟨g, hg, hsg, hgl, hgv, hbefore⟩
  · by_cases hmis : pv = x
    · rw [if_neg fun hc => hc.2 hmis]
      refine Or.inl ⟨hfin, fun g h1 h2 => ?_⟩
      rw [List.length_append, List.length_singleton] at h2
      by_cases hgl : g < vals.length
      · rw [getD_append_lt _ _ _ hgl]
        exact hall g h1 hgl
      · rw [show g = vals.length by omega, getD_append_eq]
        exact hmis.symm
    · rw [if_pos ⟨hfin, hmis⟩]
      refine Or.inr ⟨vals.length, rfl, hs, by simp, ?_, fun g' h1 h2 => ?_⟩
      · rw [getD_append_eq]
        exact fun h => hmis h.symm
      · rw [getD_append_lt _ _ _ h2]
        exact hall g' h1 h2
  · have hfin : fi ≠ NULL_FRAME := hg ▸ natCast_ne_null g
    rw [if_neg fun hc => hfin hc.1]
    refine Or.inr ⟨g, hg, hsg, by rw [List.length_append]; omega, ?_, fun g' h1 h2 => ?_⟩
    · rw [getD_append_lt _ _ _ hgl]
      exact hgv
    · rw [getD_append_lt _ _ _ (by omega)]
      exact hbefore g' h1 h2

theorem PT_addByFrame (pr : Predictor) (q q' : InputQueue) (vals : List Input) (H : Hist) (inp : PlayerInput) (f : Frame)
    (h : PT pr q vals H) (hf : f = (vals.length : Int)) (hadd : q.addInputByFrame inp f = .ok q') :
    PT pr q' (vals ++ [inp.input]) H := by
  obtain ⟨hlr, hpi, htl, hln, hcap, _, hnp, hpp⟩ := addByFrame_fields q q' inp f hadd
  refine ⟨?_, ?_⟩
  · rw [List.length_append]
    exact TailOk_push h.tail htl hln hcap
  have hlen : ((vals ++ [inp.input]).length : Int) = vals.length + 1 := by simp
  rcases h.pred with ⟨hp0, hfi0, hH⟩ | ⟨start, hs, hpf, hsr, hH, hfm, hreq⟩
  · obtain ⟨hp', hfi'⟩ := hnp hp0
    exact Or.inl ⟨hp', hfi'.trans hfi0, fun p hp => confirmed_snoc _ (Nat.le_refl _) (hH p hp)⟩
  · obtain ⟨_, hfi', hpf'⟩ := hpp (hpf ▸ natCast_ne_null _)
    rw [← hfi'] at hpf'
    have hfm' := FirstMismatch_snoc inp.input hfm hs
    rw [← hf, ← hfi', ← hpi] at hfm'
    by_cases hex : q.prediction.frame = q.lastRequestedFrame ∧ q'.firstIncorrectFrame = NULL_FRAME
    · -- every requested frame has been verified: prediction mode ends
      rw [if_pos hex] at hpf'
      refine Or.inl ⟨hpf', hex.2, fun p hp => ?_⟩
      rcases hH p hp with hc | ⟨a, b, c⟩
      · exact confirmed_snoc _ hs hc
      · rw [← hex.1, hpf] at b
        rcases hfm' with ⟨_, hall⟩ | ⟨g, hg, _⟩
        · exact predicted_verified hall a (by rw [hlen]; exact Int.lt_add_one_of_le b) (hpi ▸ c)
        · exact absurd (hg ▸ hex.2) (natCast_ne_null g)
    · rw [if_neg hex] at hpf'
      refine Or.inr ⟨start, by rw [List.length_append]; exact Nat.le_add_right_of_le hs, by rw [hpf', hpf, hlen],
        hlr ▸ hsr, fun p hp => ?_, hfm', fun hfin' => ?_⟩
      · rcases hH p hp with hc | ⟨a, b, c⟩
        · exact Or.inl ⟨hc.1, hc.2.1, (confirmed_snoc _ hs hc).2.2⟩
        · exact Or.inr ⟨a, hlr ▸ b, hpi ▸ c⟩
      · -- still nothing wrong: the new value equals the prediction, which stays the fresh one
        rw [hfi'] at hfin'
        have hfin : q.firstIncorrectFrame = NULL_FRAME ∧ q.prediction.input = inp.input := by
          by_cases hc : q.firstIncorrectFrame = NULL_FRAME ∧ q.prediction.input ≠ inp.input
          · rw [if_pos hc, hf] at hfin'
            exact absurd hfin' (natCast_ne_null _)
          · rw [if_neg hc] at hfin'
            exact ⟨hfin', Classical.not_not.mp fun hm => hc ⟨hfin', hm⟩⟩
        obtain ⟨hle, hpv⟩ := hreq hfin.1
        have hne2 : (vals.length : Int) ≠ q.lastRequestedFrame := fun hc => hex ⟨hpf.trans hc, hfi' ▸ hfin'⟩
        refine ⟨by rw [hlr, hlen]; exact Int.add_one_le_of_lt (Int.lt_iff_le_and_ne.mpr ⟨hle, hne2⟩), ?_⟩
        rw [hpi, ← hfin.2, hpv]
        exact (predValue_idem pr vals).symm

theorem PT_addKeeps (pr : Predictor) (H : Hist) : AddKeeps fun q vals => PT pr q vals H :=
  fun q q' vals inp n h hadd hn => PT_addByFrame pr q q' vals H inp n h hn hadd

end Ggrs

namespace Ggrs
open InputQueue

/-- The full queue invariant: the ring (prediction fields ignored) implements the stream, and the
prediction/tail bookkeeping is consistent with it and with the history. -/
structure PInv (pr : Predictor) (q : InputQueue) (s : QSpec) (H : Hist) : Prop where
  ring : Refines q.strip s
  pt : PT pr q s.vals H

theorem PInv_new (pr : Predictor) : PInv pr InputQueue.new {} [] := by
  refine ⟨refines_new, ⟨Or.inl ⟨rfl, rfl, rfl⟩, Or.inl ⟨rfl, rfl, fun p hp => by cases hp⟩⟩⟩

theorem refines_strip_addKeeps (lu : Int) (d : Nat) : AddKeeps fun q vals => Refines q.strip ⟨vals, lu, d⟩ :=
  fun q q' _ inp n h hadd _ => (refines_addByFrame _ _ _ inp n h (addByFrame_strip q q' inp n hadd)).2

theorem AddKeeps.addInput_spec {P} (hP : AddKeeps P)
    (hframe : ∀ (q : InputQueue) vals uf, P q vals → P { q with lastUserFrame := uf } vals)
    {q q' : InputQueue} {s : QSpec} {uf : Int} {v : Input} {fr : Frame}
    (hr : Refines q.strip s) (h : P q s.vals) (hadd : q.addInput ⟨uf, v⟩ = .ok (q', fr)) :
    Refines q'.strip (s.submit uf v).1 ∧ fr = (s.submit uf v).2 ∧ P q' (s.submit uf v).1.vals := by
  unfold InputQueue.addInput at hadd
  simp only at hadd
  have hlu : q.lastUserFrame = s.lastUser := hr.lastUser
  have hgap : (q.lastUserFrame != NULL_FRAME && uf != q.lastUserFrame + 1) = true ↔
      s.lastUser ≠ -1 ∧ uf ≠ s.lastUser + 1 := by
    rw [hlu, Bool.and_eq_true, bne_iff_ne, bne_iff_ne]
    rfl
  by_cases hdrop : (q.lastUserFrame != NULL_FRAME && uf != q.lastUserFrame + 1) = true
  · simp only [hdrop, if_true, pure_eq_ok, Prod.mk.injEq] at hadd
    rw [QSpec.submit_gap v (hgap.mp hdrop)]
    obtain ⟨rfl, rfl⟩ := hadd
    exact ⟨hr, rfl, h⟩
  · simp only [hdrop, Bool.false_eq_true, if_false] at hadd
    rw [QSpec.submit_seq v (QSpec.seq_of_not_gap fun hg => hdrop (hgap.mpr hg))]
    obtain ⟨⟨q2, newFrame⟩, hadv, hadd⟩ := bind_ok hadd
    simp only at hadd
    -- the ring half and `P` go through the loop and the final `add_input_by_frame` together
    rw [← show q.frameDelay = s.delay from hr.delay]
    have hQ := (refines_strip_addKeeps uf q.frameDelay).and hP
    have h1 : Refines ({ q with lastUserFrame := uf } : InputQueue).strip ⟨s.vals, uf, q.frameDelay⟩ ∧
        P { q with lastUserFrame := uf } s.vals :=
      ⟨⟨hr.len, hr.head, hr.first, hr.lastAdded, rfl, rfl, hr.noPrediction, hr.slots, hr.empty⟩, hframe q s.vals uf h⟩
    have hprev : rget q.inputs (prevPos q.head) = ⟨(s.vals.length : Int) - 1, s.lastVal⟩ := prev_entry q.strip s hr
    unfold InputQueue.advanceQueueHead at hadv
    simp only at hadv
    have hexp : (if ({ q with lastUserFrame := uf } : InputQueue).firstFrame then (0 : Frame)
        else (rget q.inputs (prevPos q.head)).frame + 1) = (s.vals.length : Int) := by
      rw [hprev, show q.firstFrame = (s.vals.length == 0) from hr.first]
      by_cases hn : s.vals.length = 0
      · rw [hn]
        rfl
      · rw [beq_eq_false_iff_ne.mpr hn]
        exact Int.sub_add_cancel _ _
    rw [hexp, hprev] at hadv
    by_cases hpast : (s.vals.length : Int) > uf + (q.frameDelay : Int)
    · simp only [hpast, if_true, pure_eq_ok, Prod.mk.injEq] at hadv ⊢
      obtain ⟨rfl, rfl⟩ := hadv
      simp only [bne_self_eq_false, Bool.false_eq_true, if_false, pure_eq_ok, Prod.mk.injEq] at hadd
      obtain ⟨rfl, rfl⟩ := hadd
      exact ⟨h1.1, rfl, h1.2⟩
    · simp only [hpast, if_false] at hadv ⊢
      obtain ⟨q3, hfill, hadv⟩ := bind_ok hadv
      obtain ⟨_, hadv⟩ := ensure_bind_ok hadv
      obtain ⟨rfl, rfl⟩ := Prod.mk.inj (pure_ok hadv)
      have h3 := hQ.fillLoop _ _ _ _ _ _ h1 rfl hfill
      have hnn : (uf + (q.frameDelay : Int) != NULL_FRAME) = true := by
        rw [NULL_FRAME, bne_iff_ne]
        omega
      simp only [hnn, if_true] at hadd
      obtain ⟨q4, hadd4, hadd⟩ := bind_ok hadd
      obtain ⟨rfl, rfl⟩ := Prod.mk.inj (pure_ok hadd)
      have hf4 := (refines_addByFrame _ _ _ ⟨uf, v⟩ _ h3.1 (addByFrame_strip _ _ _ _ hadd4)).1
      have h4 := hQ _ _ _ ⟨uf, v⟩ _ h3 hadd4 hf4
      exact ⟨h4.1, rfl, h4.2⟩

theorem AddKeeps.addInput {P} (hP : AddKeeps P)
    (hframe : ∀ (q : InputQueue) vals uf, P q vals → P { q with lastUserFrame := uf } vals)
    {q q' : InputQueue} {s : QSpec} {uf : Int} {v : Input} {fr : Frame}
    (hr : Refines q.strip s) (h : P q s.vals) (hadd : q.addInput ⟨uf, v⟩ = .ok (q', fr)) :
    P q' (s.submit uf v).1.vals :=
  (hP.addInput_spec hframe hr h hadd).2.2

theorem InputQueue.setFrameDelay_blank {q : InputQueue} (d : Nat) (h : q.lastAddedFrame = NULL_FRAME) :
    q.setFrameDelay d = .ok ({ q with frameDelay := d }, []) := by
  unfold InputQueue.setFrameDelay
  exact if_pos (beq_iff_eq.mpr h)

theorem InputQueue.setFrameDelay_started {q : InputQueue} (d : Nat) (h : q.lastAddedFrame ≠ NULL_FRAME) :
    q.setFrameDelay d = InputQueue.delayFillLoop (rget q.inputs (InputQueue.prevPos q.head))
      (q.lastUserFrame + 1 + d - (q.lastAddedFrame + 1)).toNat { q with frameDelay := d } [] := by
  unfold InputQueue.setFrameDelay
  exact if_neg (mt beq_iff_eq.mp h)
theorem AddKeeps.setFrameDelay_spec {P} (hP : AddKeeps P)
    (hframe : ∀ (q : InputQueue) vals d, P q vals → P { q with frameDelay := d } vals)
    {q q' : InputQueue} {s : QSpec} {d : Nat} {fills : List PlayerInput}
    (hr : Refines q.strip s) (h : P q s.vals) (hset : q.setFrameDelay d = .ok (q', fills)) :
    Refines q'.strip (s.setDelay d).1 ∧ fills = (s.setDelay d).2 ∧ P q' (s.setDelay d).1.vals := by
  have h1 : Refines ({ q with frameDelay := d } : InputQueue).strip ⟨s.vals, s.lastUser, d⟩ ∧
      P { q with frameDelay := d } s.vals :=
    ⟨⟨hr.len, hr.head, hr.first, hr.lastAdded, hr.lastUser, rfl, hr.noPrediction, hr.slots, hr.empty⟩, hframe q s.vals d h⟩
  have hla0 : q.lastAddedFrame = (s.vals.length : Int) - 1 := hr.lastAdded
  by_cases hn : s.vals.length = 0
  · rw [InputQueue.setFrameDelay_blank d (by rw [hla0, hn]; rfl)] at hset
    rw [QSpec.setDelay_empty d hn]
    obtain ⟨rfl, rfl⟩ := Prod.mk.inj (Except.ok.inj hset)
    exact ⟨h1.1, rfl, h1.2⟩
  · rw [InputQueue.setFrameDelay_started d (by rw [hla0]; exact int_pred_ne_neg_one _ hn)] at hset
    rw [QSpec.setDelay_started d hn]
    have h2 := ((refines_strip_addKeeps s.lastUser d).and hP).delayFillLoop _ _ _ _ _ _ _ h1 hla0 hset
    rw [show q.lastUserFrame = s.lastUser from hr.lastUser, hla0, Int.sub_add_cancel,
      show rget q.inputs (prevPos q.head) = ⟨(s.vals.length : Int) - 1, s.lastVal⟩ from prev_entry q.strip s hr] at h2
    exact ⟨h2.1.1, h2.2, h2.1.2⟩

theorem AddKeeps.setFrameDelay {P} (hP : AddKeeps P)
    (hframe : ∀ (q : InputQueue) vals d, P q vals → P { q with frameDelay := d } vals)
    {q q' : InputQueue} {s : QSpec} {d : Nat} {fills : List PlayerInput}
    (hr : Refines q.strip s) (h : P q s.vals) (hset : q.setFrameDelay d = .ok (q', fills)) :
    P q' (s.setDelay d).1.vals :=
  (hP.setFrameDelay_spec hframe hr h hset).2.2

theorem PInv_add (pr : Predictor) (q q' : InputQueue) (s : QSpec) (H : Hist) (uf : Int) (v : Input) (fr : Frame)
    (h : PInv pr q s H) (hadd : q.addInput ⟨uf, v⟩ = .ok (q', fr)) :
    PInv pr q' (s.submit uf v).1 H ∧ fr = (s.submit uf v).2 :=
  have ⟨a, b, c⟩ := (PT_addKeeps pr H).addInput_spec (fun _ _ _ h => ⟨h.tail, h.pred⟩) h.ring h.pt hadd
  ⟨⟨a, c⟩, b⟩

theorem PInv_setDelay (pr : Predictor) (q q' : InputQueue) (s : QSpec) (H : Hist) (d : Nat) (fills : List PlayerInput)
    (h : PInv pr q s H) (hset : q.setFrameDelay d = .ok (q', fills)) :
    PInv pr q' (s.setDelay d).1 H ∧ fills = (s.setDelay d).2 :=
  have ⟨a, b, c⟩ := (PT_addKeeps pr H).setFrameDelay_spec (fun _ _ _ h => ⟨h.tail, h.pred⟩) h.ring h.pt hset
  ⟨⟨a, c⟩, b⟩

theorem PInv_reset (pr : Predictor) (q : InputQueue) (s : QSpec) (H : Hist) (h : PInv pr q s H) : PInv pr q.resetPrediction s [] :=
  ⟨h.ring.congr rfl, ⟨h.pt.tail, Or.inl ⟨rfl, rfl, fun p hp => by cases hp⟩⟩⟩

end Ggrs

namespace Ggrs
open InputQueue

theorem PInv.tail_slot {pr : Predictor} {q : InputQueue} {s : QSpec} {H : Hist} (h : PInv pr q s H) :
    (s.vals.length = 0 ∧ q.length = 0) ∨
    ∃ t : Nat, t < s.vals.length ∧ s.vals.length ≤ t + INPUT_QUEUE_LENGTH ∧ q.tail = t % INPUT_QUEUE_LENGTH ∧
      q.length = s.vals.length - t ∧ (rget q.inputs q.tail).frame = (t : Int) := by
  rcases h.pt.tail with ⟨h0, _, hl⟩ | ⟨t, ht, hw, htt, hl⟩
  · exact Or.inl ⟨h0, hl⟩
  · exact Or.inr ⟨t, ht, hw, htt, hl, by rw [htt]; exact congrArg PlayerInput.frame (h.ring.slots t ht hw)⟩

theorem PInv.confirmed_slot {pr : Predictor} {q : InputQueue} {s : QSpec} {H : Hist} {req : Frame}
    (h : PInv pr q s H) (h0 : 0 ≤ req) (hge : (rget q.inputs q.tail).frame ≤ req)
    (hoff : (req - (rget q.inputs q.tail).frame).toNat < q.length) :
    req < s.vals.length ∧
    rget q.inputs (((req - (rget q.inputs q.tail).frame).toNat + q.tail) % INPUT_QUEUE_LENGTH)
      = ⟨req, s.vals.getD req.toNat 0⟩ := by
  rcases h.tail_slot with ⟨_, hl⟩ | ⟨t, ht, hw, htt, hl, hts⟩
  · rw [hl] at hoff
    exact absurd hoff (Nat.not_lt_zero _)
  · rw [hts] at hge hoff ⊢
    rw [Int.toNat_sub', hl] at hoff
    have hk : t ≤ req.toNat ∧ req.toNat < s.vals.length ∧ req < s.vals.length := by omega
    rw [Int.toNat_sub', htt, mod_offset hk.1]
    refine ⟨hk.2.2, (h.ring.slots req.toNat hk.2.1 (Nat.le_trans hw (Nat.add_le_add_right hk.1 _))).trans ?_⟩
    rw [Int.toNat_of_nonneg h0]

theorem PInv.beyond {pr : Predictor} {q : InputQueue} {s : QSpec} {H : Hist} {req : Frame}
    (h : PInv pr q s H) (h0 : 0 ≤ req) (hge : (rget q.inputs q.tail).frame ≤ req)
    (hoff : ¬ (req - (rget q.inputs q.tail).frame).toNat < q.length) : (s.vals.length : Int) ≤ req := by
  rcases h.tail_slot with ⟨hn, _⟩ | ⟨t, ht, _, _, hl, hts⟩
  · rw [hn]
    exact h0
  · rw [hts, hl] at hoff
    rw [hts] at hge
    omega

/-- `discard_confirmed_frames` below the newest input (the sessions never discard more: the frame
they pass is below every connected player's newest input) only moves the tail. -/
theorem PInv_discard (pr : Predictor) (q q' : InputQueue) (s : QSpec) (H : Hist) (f : Frame)
    (h : PInv pr q s H) (hlt : f < q.lastAddedFrame) (hd : q.discardConfirmedFrames f = .ok q') :
    PInv pr q' s H := by
  have hr := h.ring
  have hla : q.lastAddedFrame = (s.vals.length : Int) - 1 := hr.lastAdded
  obtain ⟨f', hf', hc⟩ := discardConfirmedFrames_ok hd
  rcases hc with ⟨h1, _⟩ | ⟨_, _, rfl⟩ | ⟨_, h2, h3, rfl⟩
  · exact absurd h1 (Int.not_le.mpr (Int.lt_of_le_of_lt hf' hlt))
  · exact h
  refine ⟨hr.congr rfl, ?_, h.pt.pred⟩
  rcases h.tail_slot with ⟨_, hl⟩ | ⟨t, ht, hw, htt, hl, hts⟩
  · rw [hl] at h3
    omega
  · -- the new tail is the slot of frame `f'`
    rw [hts] at h2 ⊢
    have hk : t ≤ f'.toNat ∧ f'.toNat < s.vals.length := by omega
    exact TailOk_drop hk.1 hk.2 hw htt hl (congrArg (fun d => (q.tail + d) % INPUT_QUEUE_LENGTH) (Int.toNat_sub' f' t))
      (congrArg (q.length - ·) (Int.toNat_sub' f' t))

theorem fresh_prediction {pr : Predictor} {q : InputQueue} {s : QSpec} {req : Frame} (hr : Refines q.strip s)
    (hp : q.prediction.frame = NULL_FRAME) (hb : (s.vals.length : Int) ≤ req) :
    (if req = 0 ∨ q.lastAddedFrame = NULL_FRAME then (⟨q.prediction.frame + 1, 0⟩ : PlayerInput)
      else ⟨(rget q.inputs (prevPos q.head)).frame + 1, pr.predict (rget q.inputs (prevPos q.head)).input⟩)
    = ⟨(s.vals.length : Int), predValue pr s.vals⟩ := by
  have hla : q.lastAddedFrame = (s.vals.length : Int) - 1 := hr.lastAdded
  have hprev : rget q.inputs (prevPos q.head) = ⟨(s.vals.length : Int) - 1, s.lastVal⟩ := prev_entry q.strip s hr
  unfold predValue
  by_cases hn : s.vals.length = 0
  · rw [if_pos (Or.inr (by rw [hla, hn]; rfl)), if_pos hn, hp, hn]
    rfl
  · rw [if_neg (by rw [hla, NULL_FRAME]; omega), if_neg hn, hprev, Int.sub_add_cancel]
    rfl

/-- `input`, with requests not going backwards since the last reset: a Confirmed answer is the stream's
value for a received frame; a Predicted answer is only given for a frame not yet received and is
recorded in the history. -/
theorem PInv_input (pr : Predictor) (q q' : InputQueue) (s : QSpec) (H : Hist) (req : Frame) (v : Input)
    (st : InputStatus) (h : PInv pr q s H) (hreq0 : 0 ≤ req)
    (hmono : q.lastRequestedFrame = NULL_FRAME ∨ q.lastRequestedFrame ≤ req)
    (hin : q.input pr req = .ok (q', v, st)) :
    q'.lastRequestedFrame = req ∧
    ((st = .confirmed ∧ 0 ≤ req ∧ req < s.vals.length ∧ v = s.vals.getD req.toNat 0 ∧ PInv pr q' s H) ∨
     (st = .predicted ∧ (s.vals.length : Int) ≤ req ∧ v = predValue pr s.vals ∧ PInv pr q' s (H ++ [(req, v)]))) := by
  obtain ⟨hfi0, hge, hcase⟩ := input_ok hin
  have hr := h.ring
  have keepR : ∀ (p : PlayerInput), Refines ({ q with lastRequestedFrame := req, prediction := p } : InputQueue).strip s :=
    fun p => hr.congr rfl
  rcases h.pt.pred with ⟨hpn, _, hHok⟩ | ⟨start, hs, hpf, hsr, hH, hfm, hreq⟩
  · -- not predicting
    rcases hcase with ⟨_, hoff, _, rfl, rfl, rfl⟩ | ⟨_, hoff, rfl, rfl, rfl⟩ | ⟨hp, _⟩
    · obtain ⟨hlt, hslot⟩ := h.confirmed_slot hreq0 hge hoff
      rw [hslot]
      exact ⟨rfl, Or.inl ⟨rfl, hreq0, hlt, rfl, keepR _, h.pt.tail, Or.inl ⟨hpn, hfi0, hHok⟩⟩⟩
    · have hbeyond := h.beyond hreq0 hge hoff
      rw [fresh_prediction hr hpn hbeyond]
      refine ⟨rfl, Or.inr ⟨rfl, hbeyond, rfl, keepR _, h.pt.tail, Or.inr ⟨s.vals.length, Nat.le_refl _, rfl, hbeyond, ?_,
        Or.inl ⟨hfi0, fun g h1 h2 => absurd h2 (Nat.not_lt.mpr h1)⟩, fun _ => ⟨hbeyond, rfl⟩⟩⟩⟩
      exact List.forall_mem_append.mpr ⟨fun p hold => Or.inl (hHok p hold),
        List.forall_mem_singleton.mpr (Or.inr ⟨hbeyond, Int.le_refl _, rfl⟩)⟩
    · rw [hpn] at hp
      exact absurd (by decide) hp
  · -- already predicting: the sticky prediction
    rcases hcase with ⟨hp, _⟩ | ⟨hp, _⟩ | ⟨_, rfl, rfl, rfl⟩
    · omega
    · omega
    · obtain ⟨hle, hpv⟩ := hreq hfi0
      have hreq2 : q.lastRequestedFrame ≤ req := by
        rcases hmono with h0 | h0
        · rw [h0, NULL_FRAME] at hsr
          omega
        · exact h0
      refine ⟨rfl, Or.inr ⟨rfl, Int.le_trans hle hreq2, hpv, keepR _, h.pt.tail,
        Or.inr ⟨start, hs, hpf, Int.le_trans hsr hreq2, ?_, hfm, fun _ => ⟨Int.le_trans hle hreq2, hpv⟩⟩⟩⟩
      exact List.forall_mem_append.mpr ⟨fun p hold => (hH p hold).imp_right fun ⟨a, b, c⟩ => ⟨a, Int.le_trans b hreq2, c⟩,
        List.forall_mem_singleton.mpr (Or.inr ⟨Int.le_trans hsr hreq2, Int.le_refl _, rfl⟩)⟩

end Ggrs

namespace Ggrs
open InputQueue

structure QState where
  q : InputQueue
  s : QSpec
  H : Hist

/-- One call of the queue's API as the sessions use it. `discard` never reaches the newest input;
requests are non-negative and do not go backwards between two resets. -/
inductive QStep (pr : Predictor) : QState → QState → Prop
  | add (st : QState) (uf : Int) (v : Input) (q' : InputQueue) (fr : Frame) :
      st.q.addInput ⟨uf, v⟩ = .ok (q', fr) → QStep pr st ⟨q', (st.s.submit uf v).1, st.H⟩
  | setDelay (st : QState) (d : Nat) (q' : InputQueue) (fills : List PlayerInput) :
      st.q.setFrameDelay d = .ok (q', fills) → QStep pr st ⟨q', (st.s.setDelay d).1, st.H⟩
  | discard (st : QState) (f : Frame) (q' : InputQueue) :
      f < st.q.lastAddedFrame → st.q.discardConfirmedFrames f = .ok q' → QStep pr st ⟨q', st.s, st.H⟩
  | inputConfirmed (st : QState) (req : Frame) (v : Input) (q' : InputQueue) :
      0 ≤ req → (st.q.lastRequestedFrame = NULL_FRAME ∨ st.q.lastRequestedFrame ≤ req) →
      st.q.input pr req = .ok (q', v, .confirmed) → QStep pr st ⟨q', st.s, st.H⟩
  | inputPredicted (st : QState) (req : Frame) (v : Input) (q' : InputQueue) :
      0 ≤ req → (st.q.lastRequestedFrame = NULL_FRAME ∨ st.q.lastRequestedFrame ≤ req) →
      st.q.input pr req = .ok (q', v, .predicted) → QStep pr st ⟨q', st.s, st.H ++ [(req, v)]⟩
  | reset (st : QState) : QStep pr st ⟨st.q.resetPrediction, st.s, []⟩

inductive QStar (pr : Predictor) : QState → QState → Prop
  | refl (st : QState) : QStar pr st st
  | step (st st' st'' : QState) : QStar pr st st' → QStep pr st' st'' → QStar pr st st''

theorem PInv_step (pr : Predictor) (st st' : QState) (h : PInv pr st.q st.s st.H) (hs : QStep pr st st') :
    PInv pr st'.q st'.s st'.H := by
  cases hs with
  | add uf v q' fr hadd => exact (PInv_add pr _ _ _ _ uf v fr h hadd).1
  | setDelay d q' fills hset => exact (PInv_setDelay pr _ _ _ _ d fills h hset).1
  | discard f q' hlt hd => exact PInv_discard pr _ _ _ _ f h hlt hd
  | inputConfirmed req v q' h0 hm hin =>
    rcases (PInv_input pr _ _ _ _ req v _ h h0 hm hin).2 with ⟨_, _, _, _, hi⟩ | ⟨hc, _⟩
    · exact hi
    · cases hc
  | inputPredicted req v q' h0 hm hin =>
    rcases (PInv_input pr _ _ _ _ req v _ h h0 hm hin).2 with ⟨hc, _⟩ | ⟨_, _, _, hi⟩
    · cases hc
    · exact hi
  | reset => exact PInv_reset pr _ _ _ h

/-- **L-detect.** The invariant holds after every sequence of queue operations. -/
theorem PInv_run (pr : Predictor) (st st' : QState) (h : PInv pr st.q st.s st.H) (hr : QStar pr st st') :
    PInv pr st'.q st'.s st'.H := by
  induction hr with
  | refl => exact h
  | step st' st'' _ hs ih => exact PInv_step pr st' st'' ih hs

/-- No wrong prediction is left undetected: the recorded `first_incorrect_frame` is the frame of a real
mismatch, and every prediction handed out for an earlier frame was right. -/
theorem PInv_detect (pr : Predictor) (q : InputQueue) (s : QSpec) (H : Hist) (h : PInv pr q s H) :
    (q.firstIncorrectFrame = NULL_FRAME →
      ∀ p ∈ H, p.1 < s.vals.length → s.vals.getD p.1.toNat 0 = p.2) ∧
    (q.firstIncorrectFrame ≠ NULL_FRAME →
      ∃ g : Nat, q.firstIncorrectFrame = (g : Int) ∧ g < s.vals.length ∧
        s.vals.getD g 0 ≠ q.prediction.input ∧
        ∀ p ∈ H, p.1 < (g : Int) → s.vals.getD p.1.toNat 0 = p.2) := by
  rcases h.pt.pred with ⟨_, hfi, hH⟩ | ⟨start, hs, hpf, hsr, hH, hfm, _⟩
  · exact ⟨fun _ p hp _ => (hH p hp).2.2, fun hne => absurd hfi hne⟩
  · rcases hfm with ⟨hfin, hall⟩ | ⟨g, hg, hsg, hgl, hgv, hbefore⟩
    · refine ⟨fun _ p hp hlt => ?_, fun hne => absurd hfin hne⟩
      rcases hH p hp with ⟨_, _, c⟩ | ⟨a, _, c⟩
      · exact c
      · exact (predicted_verified hall a hlt c).2.2
    · refine ⟨fun h0 => absurd (hg ▸ h0) (natCast_ne_null g), fun _ => ⟨g, hg, hgl, hgv, ?_⟩⟩
      intro p hp hlt
      rcases hH p hp with ⟨_, _, c⟩ | ⟨a, _, c⟩
      · exact c
      · exact (predicted_verified hbefore a hlt c).2.2

end Ggrs
