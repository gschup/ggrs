/-
L-lockstep: a lockstep session (prediction window 0) with nobody disconnected, for every
interleaving of remote-input arrivals, `add_local_input` calls and `advance_frame` calls (`LkStep`):
every simulated frame carries every player's real input with status Confirmed, nothing is ever
saved, loaded or re-simulated.
-/
import GgrsModel.Proofs.World
import GgrsModel.Proofs.Rows

namespace Ggrs
open InputQueue

/-- Nobody ever asked this queue for an input it did not have: no prediction, no misprediction, no request on
record. (`confirmed_inputs` reads the ring without touching these fields.) -/
def Idle (q : InputQueue) : Prop :=
  q.prediction.frame = NULL_FRAME ∧ q.firstIncorrectFrame = NULL_FRAME ∧ q.lastRequestedFrame = NULL_FRAME

theorem addByFrame_idle (q q' : InputQueue) (inp : PlayerInput) (f : Frame) (h : Idle q)
    (ha : q.addInputByFrame inp f = .ok q') : Idle q' := by
  obtain ⟨hlr, _, _, _, _, _, hnp, _⟩ := addByFrame_fields q q' inp f ha
  obtain ⟨a, b⟩ := hnp h.1
  exact ⟨a, by rw [b]; exact h.2.1, by rw [hlr]; exact h.2.2⟩

theorem fillLoop_idle (toRep : PlayerInput) : ∀ (n : Nat) (q q' : InputQueue) (e : Frame), Idle q →
    fillLoop toRep n q e = .ok q' → Idle q' := by
  intro n
  induction n with
  | zero => intro q q' e h hf; cases hf; exact h
  | succ k ih =>
    intro q q' e h hf
    obtain ⟨q1, h1, hf⟩ := bind_ok hf
    exact ih q1 q' (e + 1) (addByFrame_idle q q1 toRep e h h1) hf

theorem advanceQueueHead_idle (q q' : InputQueue) (f nf : Frame) (h : Idle q)
    (ha : q.advanceQueueHead f = .ok (q', nf)) : Idle q' := by
  unfold InputQueue.advanceQueueHead at ha
  simp only at ha
  generalize (if q.firstFrame = true then (0 : Frame) else (rget q.inputs (prevPos q.head)).frame + 1) = expected at ha
  split at ha
  · obtain ⟨rfl, _⟩ := Prod.mk.inj (pure_ok ha)
    exact h
  · obtain ⟨q2, hfill, ha⟩ := bind_ok ha
    obtain ⟨_, ha⟩ := ensure_bind_ok ha
    obtain ⟨rfl, _⟩ := Prod.mk.inj (pure_ok ha)
    exact fillLoop_idle _ _ _ _ _ h hfill

theorem addInput_idle (q q' : InputQueue) (pi : PlayerInput) (fr : Frame) (h : Idle q)
    (ha : q.addInput pi = .ok (q', fr)) : Idle q' := by
  unfold InputQueue.addInput at ha
  split at ha
  · obtain ⟨rfl, _⟩ := Prod.mk.inj (pure_ok ha)
    exact h
  · obtain ⟨⟨q1, nf⟩, hadv, ha⟩ := bind_ok ha
    have hi1 : Idle q1 := advanceQueueHead_idle { q with lastUserFrame := pi.frame } q1 pi.frame nf h hadv
    simp only at ha
    split at ha
    · obtain ⟨q3, hab, ha⟩ := bind_ok ha
      obtain ⟨rfl, _⟩ := Prod.mk.inj (pure_ok ha)
      exact addByFrame_idle q1 q3 pi nf hi1 hab
    · obtain ⟨rfl, _⟩ := Prod.mk.inj (pure_ok ha)
      exact hi1

theorem discard_idle (q q' : InputQueue) (f : Frame) (h : Idle q) (hd : q.discardConfirmedFrames f = .ok q') :
    Idle q' := by
  obtain ⟨e1, e2, e3⟩ := discard_fields q q' f hd
  exact ⟨by rw [e1]; exact h.1, by rw [e2]; exact h.2.1, by rw [e3]; exact h.2.2⟩

def AllIdle (qs : List InputQueue) : Prop := ∀ p, p < qs.length → Idle (rget qs p)

theorem AllIdle_rset (qs : List InputQueue) (i : Nat) (q' : InputQueue) (h : AllIdle qs) (hq : Idle q') :
    AllIdle (rset qs i q') := by
  intro p hp
  rw [rset_length] at hp
  by_cases hpi : p = i
  · subst hpi; rw [rget_rset_eq _ _ _ hp]; exact hq
  · rw [rget_rset_ne _ _ _ _ (fun e => hpi e.symm)]; exact h p hp

theorem confirmedInput_eq_ok (q : InputQueue) (c : Nat) (pi : PlayerInput) :
    q.confirmedInput (c : Int) = .ok pi ↔ rget q.inputs (c % INPUT_QUEUE_LENGTH) = pi ∧ pi.frame = (c : Int) := by
  unfold InputQueue.confirmedInput
  simp only [frameIdx_natCast]
  constructor
  · intro h
    split at h
    · rename_i hfr
      cases h
      exact ⟨rfl, eq_of_beq hfr⟩
    · cases h
  · rintro ⟨rfl, hfr⟩
    rw [if_pos (beq_iff_eq.2 hfr)]

theorem confirmedInput_iff (q : InputQueue) (s : QSpec) (h : Refines q.strip s) (c : Nat) (hc : c < s.vals.length)
    (pi : PlayerInput) :
    q.confirmedInput (c : Int) = .ok pi ↔
      s.vals.length ≤ c + INPUT_QUEUE_LENGTH ∧ pi = ⟨(c : Int), s.vals.getD c 0⟩ := by
  rw [confirmedInput_eq_ok]
  constructor
  · rintro ⟨hpi, hfr⟩
    by_cases hw : s.vals.length ≤ c + INPUT_QUEUE_LENGTH
    · exact ⟨hw, hpi.symm.trans (h.slots c hc hw)⟩
    · exfalso
      -- the slot holds the frame of the newest 128 that is congruent to c
      have hq : INPUT_QUEUE_LENGTH = 128 := rfl
      rw [hq] at hw
      obtain ⟨j, hj⟩ : ∃ j, j = (s.vals.length - 1 - c) / 128 := ⟨_, rfl⟩
      have hk := h.slots (c + 128 * j) (by omega) (by rw [hq]; omega)
      rw [hq, Nat.add_mul_mod_self_left] at hk
      have e : pi = _ := hpi.symm.trans hk
      rw [e] at hfr
      simp only at hfr
      omega
  · rintro ⟨hw, rfl⟩
    exact ⟨h.slots c hc hw, rfl⟩

theorem confirmedInput_spec (q : InputQueue) (s : QSpec) (h : Refines q.strip s) (f : Nat)
    (hf : f < s.vals.length) (hw : s.vals.length ≤ f + INPUT_QUEUE_LENGTH) :
    q.confirmedInput (f : Int) = .ok ⟨(f : Int), s.vals.getD f 0⟩ :=
  (confirmedInput_iff q s h f hf _).2 ⟨hw, rfl⟩

/-- A confirmed input that was handed out is the stream's input of that frame; once the stream has run more
than a ring ahead the slot holds another frame and the call fails. -/
theorem confirmedInput_ok (q : InputQueue) (s : QSpec) (h : Refines q.strip s) (c : Nat)
    (hc : c < s.vals.length) (pi : PlayerInput) (hok : q.confirmedInput (c : Int) = .ok pi) :
    pi = ⟨(c : Int), s.vals.getD c 0⟩ :=
  ((confirmedInput_iff q s h c hc pi).1 hok).2

theorem registerOne_idle (s s' : P2P) (hd : Nat) (hi : AllIdle s.sync.queues) (h : s.registerOne hd = .ok s') :
    AllIdle s'.sync.queues := by
  obtain ⟨pi, sy, actual, _, hadd, hnull, hreal⟩ := P2P.registerOne_ok h
  obtain ⟨_, hpl, q', haq, rfl⟩ := SyncLayer.addLocalInput_ok hadd
  have hi1 : AllIdle (rset s.sync.queues hd q') :=
    AllIdle_rset _ _ _ hi (addInput_idle _ q' pi actual (hi hd hpl) haq)
  by_cases ha : actual = NULL_FRAME
  · rw [hnull ha]
    exact hi1
  · obtain ⟨s2, hbl, hout⟩ := hreal ha
    rw [(P2P.queueOutgoing_sameCore _ _ _ _ hout).sync]
    show AllIdle s2.sync.queues
    rw [(P2P.queueInitialBlanks_sameCore _ _ _ _ hbl).sync]
    exact hi1

theorem registerLocalInputs_idle (s s' : P2P) (now : Nat) (hi : AllIdle s.sync.queues)
    (h : s.registerLocalInputs now = .ok s') : AllIdle s'.sync.queues := by
  obtain ⟨s1, hfold, hsend⟩ := P2P.registerLocalInputs_ok h
  rw [(P2P.sendReady_sameCore _ _ _ hsend).sync]
  exact P2P.foldlM_rel (R := fun a b => AllIdle a.sync.queues → AllIdle b.sync.queues)
    ⟨fun _ ha => ha, fun h1 h2 ha => h2 (h1 ha)⟩ _ (fun a x b hh ha => registerOne_idle a b x ha hh) _ s s1 hfold hi

section RemoteInput
variable (s s' : P2P) (now : Nat) (inp : PlayerInput) (player : Nat) (handles : List Nat) (addr : Nat)

theorem remoteInput_sync (hev : s.handleEventCore now (.input inp player) handles addr = .ok s') :
    s'.sync = s.sync ∨ ∃ q' fr, player < s.sync.queues.length ∧ (rget s.sync.queues player).addInput inp = .ok (q', fr) ∧
      s'.sync = { s.sync with queues := rset s.sync.queues player q' } := by
  obtain ⟨_, hdead, hlive⟩ := P2P.handleEventCore_input_ok hev
  cases hd : (rget s.localConnectStatus player).disconnected with
  | true => exact Or.inl (by rw [hdead hd])
  | false =>
    obtain ⟨_, sy, hadd, rfl⟩ := hlive hd
    obtain ⟨hpl, q', fr, haq, rfl⟩ := SyncLayer.addRemoteInput_ok hadd
    exact Or.inr ⟨q', fr, hpl, haq, rfl⟩

theorem remoteInput_idle (hi : AllIdle s.sync.queues)
    (hev : s.handleEventCore now (.input inp player) handles addr = .ok s') : AllIdle s'.sync.queues := by
  rcases remoteInput_sync s s' now inp player handles addr hev with e | ⟨q', fr, hp, haq, e⟩
  · rw [e]; exact hi
  · rw [e]; exact AllIdle_rset _ _ _ hi (addInput_idle _ q' inp fr (hi player hp) haq)

theorem remoteInput_nq (hev : s.handleEventCore now (.input inp player) handles addr = .ok s') :
    s'.sync.queues.length = s.sync.queues.length := by
  rcases remoteInput_sync s s' now inp player handles addr hev with e | ⟨_, _, _, _, e⟩
  · rw [e]
  · rw [e]; exact rset_length _ _ _

theorem remoteInput_cur (hev : s.handleEventCore now (.input inp player) handles addr = .ok s') :
    s'.sync.currentFrame = s.sync.currentFrame := by
  rcases remoteInput_sync s s' now inp player handles addr hev with e | ⟨_, _, _, _, e⟩
  · rw [e]
  · rw [e]

end RemoteInput

theorem setLastConfirmed_idle (sy sy' : SyncLayer) (f : Frame) (sp : Bool) (hi : AllIdle sy.queues)
    (h : sy.setLastConfirmedFrame f sp = .ok sy') : AllIdle sy'.queues := by
  obtain ⟨fr, qs, _, rfl, hpos, hnpos⟩ := SyncLayer.setLastConfirmedFrame_ok h
  by_cases hfr : 0 < fr
  · obtain ⟨hl, hpt⟩ := mapM_ok _ _ _ (hpos hfr)
    intro p hp
    have hp' : p < sy.queues.length := by rw [← hl]; exact hp
    exact discard_idle _ _ _ (hi p hp') (hpt p hp')
  · show AllIdle qs
    rw [hnpos hfr]
    exact hi

theorem confirmedInputsLoop_ok (frame : Frame) (qs : List InputQueue) :
    ∀ (st : List ConnStatus) (i : Nat) (acc out : List PlayerInput), (∀ cs ∈ st, cs.disconnected = false) →
    SyncLayer.confirmedInputsLoop frame qs st i acc = .ok out →
    ∃ l : List PlayerInput, out = acc.reverse ++ l ∧ l.length = st.length ∧
      ∀ k, k < st.length → i + k < qs.length ∧ (rget qs (i + k)).confirmedInput frame = .ok (rget l k) := by
  intro st i acc out hc h
  obtain ⟨l, hout, hlen, hpt⟩ := SyncLayer.confirmedInputsLoop_spec frame qs st i acc out h
  exact ⟨l, hout, hlen, fun k hk => (hpt k hk).2 fun hs => Bool.false_ne_true ((hc _ (mem_of_rget st k hk)).symm.trans hs.1)⟩

theorem confirmedInputs_conn {sy : SyncLayer} {frame : Frame} {st : List ConnStatus} {out : List PlayerInput}
    (hc : ∀ cs ∈ st, cs.disconnected = false) (h : sy.confirmedInputs frame st = .ok out) :
    out.length = st.length ∧ ∀ k, k < st.length → (rget sy.queues k).confirmedInput frame = .ok (rget out k) := by
  obtain ⟨hlen, hpt⟩ := SyncLayer.confirmedInputs_ok h
  exact ⟨hlen, fun k hk => ((hpt k hk).2 fun hs => Bool.false_ne_true ((hc _ (mem_of_rget st k hk)).symm.trans hs.1)).2⟩

/-- A frame the queue holds is simulated with its real input: the column moves on, the queue is untouched. -/
theorem QI_consume (pr : Predictor) (q : InputQueue) (s : QSpec) (H : Hist) (Tp : Nat → Input) (c : Nat)
    (h : QI pr q s H Tp (c : Int)) (hi : Idle q) (hc : c < s.vals.length) :
    QI pr q s H (upd Tp c (s.vals.getD c 0)) ((c : Int) + 1) := by
  refine ⟨h.ring, h.pt, ⟨?_, ?_, Or.inl hi.2.2⟩⟩
  · intro f hf
    by_cases hfc : f = c
    · subst hfc
      exact Or.inr (Or.inl ⟨hc, by rw [upd_self]⟩)
    · rw [upd_ne _ _ _ _ hfc]
      exact h.tl.col f (by omega)
  · intro hlen _
    omega

/-- A lockstep session with nobody disconnected: the session invariant, every queue idle, every
queue holding every simulated frame, and every simulated row the full row of real, Confirmed
inputs. -/
structure LkInv (s : P2P) (gh : Ghost) (t : TLState) : Prop where
  sess : SessInv s gh t []
  idle : AllIdle s.sync.queues
  full : ∀ p, p < s.sync.queues.length → s.sync.currentFrame ≤ ((gh.specs p).vals.length : Int)
  rows : ∀ f : Nat, (f : Int) < s.sync.currentFrame → (t.R f).length = s.sync.queues.length ∧
    ∀ p, p < s.sync.queues.length → ((t.R f).getD p default).2 = InputStatus.confirmed

theorem LkInv.grow {s s' : P2P} {gh gh' : Ghost} {t : TLState} (h : LkInv s gh t) (hs : SessInv s' gh' t [])
    (hi : AllIdle s'.sync.queues) (hcur : s'.sync.currentFrame = s.sync.currentFrame)
    (hq : s'.sync.queues.length = s.sync.queues.length)
    (hgrow : ∀ p, (gh.specs p).vals.length ≤ (gh'.specs p).vals.length) : LkInv s' gh' t := by
  refine ⟨hs, hi, fun p hp => ?_, fun f hf => ?_⟩
  · have h1 := h.full p (by rw [← hq]; exact hp)
    have h2 := hgrow p
    rw [hcur]
    omega
  · rw [hq]
    exact h.rows f (by rw [← hcur]; exact hf)

theorem LkInv.pending {s : P2P} {gh : Ghost} {t : TLState} (h : LkInv s gh t) (l : List (Nat × PlayerInput)) :
    LkInv { s with pendingLocalInputs := l } gh t :=
  ⟨SessInv_pending s gh t [] l h.sess, h.idle, h.full, h.rows⟩

theorem LkInv.remoteInput {s s' : P2P} {gh gh' : Ghost} {t : TLState} {now : Nat} {inp : PlayerInput} {player : Nat}
    {handles : List Nat} {addr : Nat} (h : LkInv s gh t)
    (hev : s.handleEventCore now (.input inp player) handles addr = .ok s') (hs : SessInv s' gh' t [])
    (hgrow : ∀ p, (gh.specs p).vals.length ≤ (gh'.specs p).vals.length) : LkInv s' gh' t :=
  h.grow hs (remoteInput_idle s s' now inp player handles addr h.idle hev)
    (remoteInput_cur s s' now inp player handles addr hev) (remoteInput_nq s s' now inp player handles addr hev) hgrow

theorem LkInv.confirmed_le {s : P2P} {gh : Ghost} {t : TLState} (h : LkInv s gh t) {conf : Frame}
    (hconf : s.confirmedFrame = .ok conf) (x : Frame) (p : Nat) (hp : p < s.sync.queues.length) :
    min conf x ≤ (rget s.localConnectStatus p).lastFrame :=
  Int.le_trans (Int.min_le_left _ _)
    (confirmedFrame_le s conf hconf h.sess.tinv.sync.conn p (by rw [h.sess.tinv.sync.nq]; exact hp))

theorem rget_zipIdx {α} [Inhabited α] (l : List α) (p : Nat) (hp : p < l.length) :
    rget l.zipIdx p = (rget l p, p) := by
  simp [rget, List.getD_eq_getElem?_getD, hp]

theorem execReqs_advance {t : TLState} {c : Nat} (htc : t.cur = (c : Int)) (ins : List (Input × InputStatus)) :
    execReqs t [.advance ins] = ⟨(c : Int) + 1, upd t.R c ins⟩ := by
  simp only [execReqs, List.foldl_cons, List.foldl_nil, execReq, htc, Int.toNat_natCast]

theorem lockstepRow (s : P2P) (gh : Ghost) (c : Nat) (cis : List PlayerInput) (inputs : List (Input × InputStatus))
    (hN : s.localConnectStatus.length = s.sync.queues.length)
    (hconn : ∀ cs ∈ s.localConnectStatus, cs.disconnected = false)
    (hring : ∀ p, p < s.sync.queues.length → Refines (rget s.sync.queues p).strip (gh.specs p))
    (hfull : ∀ p, p < s.sync.queues.length → c < (gh.specs p).vals.length)
    (hcis : s.sync.confirmedInputs (c : Int) s.localConnectStatus = .ok cis)
    (hmap : cis.zipIdx.mapM (s.lockstepInput (c : Int)) = .ok inputs) :
    inputs = rowOf gh s.sync.queues.length c := by
  obtain ⟨hlen, hpt⟩ := confirmedInputs_conn hconn hcis
  obtain ⟨hil, hip⟩ := mapM_ok _ _ _ hmap
  have hzl : cis.zipIdx.length = s.sync.queues.length := by rw [List.length_zipIdx, hlen, hN]
  refine eq_rowOf gh _ c inputs (hil.trans hzl) fun p hp => ?_
  have hk := hpt p (by rw [hN]; exact hp)
  have hin := hip p (by rw [hzl]; exact hp)
  rw [rget_zipIdx _ _ (by rw [hlen, hN]; exact hp), confirmedInput_ok _ _ (hring p hp) c (hfull p hp) _ hk] at hin
  rw [P2P.lockstepInput_ok hin]
  exact congrArg _ (if_neg fun hc => natCast_ne_null c (eq_of_beq hc))

theorem SessInv_consume (s : P2P) (gh : Ghost) (t : TLState) (c : Nat) (h : SessInv s gh t [])
    (hi : AllIdle s.sync.queues) (hc : s.sync.currentFrame = (c : Int))
    (hfull : ∀ p, p < s.sync.queues.length → c < (gh.specs p).vals.length) :
    SessInv { s with sync := s.sync.advanceFrame, pendingLocalInputs := [] }
      { gh with T := fun p => upd (gh.T p) c ((gh.specs p).vals.getD c 0) } t
      [.advance (rowOf gh s.sync.queues.length c)] := by
  have htc : t.cur = (c : Int) := h.tinv.exec.trans hc
  refine ⟨⟨⟨?_, h.tinv.sync.nq, h.tinv.sync.conn, ?_⟩, ?_, ?_⟩, ?_, h.status, h.remote⟩
  · show 0 ≤ s.sync.currentFrame + 1
    have := h.tinv.sync.cur
    omega
  · intro p hp
    show QI s.pred (rget s.sync.queues p) (gh.specs p) (gh.hists p) (upd (gh.T p) c _) (s.sync.currentFrame + 1)
    have := h.tinv.sync.all p hp
    rw [hc] at this ⊢
    exact QI_consume s.pred _ _ _ _ c this (hi p hp) (hfull p hp)
  · rw [execReqs_advance htc]
    show (c : Int) + 1 = s.sync.currentFrame + 1
    rw [hc]
  · intro p hp f
    rw [execReqs_advance htc]
    exact col_upd (h.tinv.rows p hp) c (by rw [rowOf_getD gh s.sync.queues.length c p hp]) f
  · intro p hp _
    right
    show s.sync.currentFrame + 1 ≤ (rget s.sync.queues p).lastAddedFrame + 1
    rw [lastAdded_of_QI (h.tinv.sync.all p hp), hc]
    have := hfull p hp
    omega

/-- The frame-consuming step of lockstep: nothing, or exactly one AdvanceFrame on the full row of
real inputs. -/
theorem lockstepAdvance_spec (s s' : P2P) (gh : Ghost) (t : TLState) (conf : Frame) (reqs' : List Request)
    (h : LkInv s gh t) (hconf : s.confirmedFrame = .ok conf)
    (hstep : s.lockstepAdvance s.sync.currentFrame conf [] = .ok (s', reqs')) :
    (reqs' = [] ∧ s' = s) ∨
    ∃ (c : Nat) (gh' : Ghost), s.sync.currentFrame = (c : Int) ∧ reqs' = [.advance (rowOf gh s.sync.queues.length c)] ∧
      gh'.specs = gh.specs ∧ SessInv s' gh' t reqs' ∧ AllIdle s'.sync.queues ∧
      s'.sync.currentFrame = s.sync.currentFrame + 1 ∧ s'.sync.queues = s.sync.queues ∧
      s'.localConnectStatus = s.localConnectStatus ∧ s'.sparse = s.sparse ∧ s'.handles = s.handles ∧ s'.pred = s.pred ∧
      (∀ p, p < s.sync.queues.length → (c : Int) + 1 ≤ ((gh.specs p).vals.length : Int)) := by
  rcases P2P.lockstepAdvance_ok hstep with ⟨_, hs', hr'⟩ | ⟨hge, cis, inputs, hcis, hmap, hs', hr'⟩
  · exact Or.inl ⟨hr', hs'⟩
  · have hsi := h.sess
    obtain ⟨c, hc⟩ : ∃ c : Nat, s.sync.currentFrame = (c : Int) :=
      ⟨s.sync.currentFrame.toNat, by have := hsi.tinv.sync.cur; omega⟩
    have hfull : ∀ p, p < s.sync.queues.length → (c : Int) + 1 ≤ ((gh.specs p).vals.length : Int) := by
      intro p hp
      have h1 := confirmedFrame_le s conf hconf hsi.tinv.sync.conn p (by rw [hsi.tinv.sync.nq]; exact hp)
      have h2 := hsi.status p hp
      rw [lastAdded_of_QI (hsi.tinv.sync.all p hp)] at h2
      omega
    have hlt : ∀ p, p < s.sync.queues.length → c < (gh.specs p).vals.length := fun p hp => by
      have := hfull p hp
      omega
    rw [hc] at hcis hmap
    have hrow := lockstepRow s gh c cis inputs hsi.tinv.sync.nq hsi.tinv.sync.conn
      (fun p hp => (hsi.tinv.sync.all p hp).ring) hlt hcis hmap
    subst hs' hr' hrow
    exact Or.inr ⟨c, { gh with T := fun p => upd (gh.T p) c ((gh.specs p).vals.getD c 0) }, hc, rfl, rfl,
      SessInv_consume s gh t c hsi h.idle hc hlt, h.idle, rfl, rfl, rfl, rfl, rfl, rfl, hfull⟩

theorem lockstepMid_spec (s1 s2 : P2P) (gh1 : Ghost) (t : TLState) (c1 : Frame) (reqs2 : List Request)
    (hl1 : LkInv s1 gh1 t) (hc1 : s1.confirmedFrame = .ok c1)
    (hstep : s1.lockstepAdvance s1.sync.currentFrame c1 [] = .ok (s2, reqs2)) :
    ∃ gh2, LkInv s2 gh2 (execReqs t reqs2) ∧ gh2.specs = gh1.specs ∧ s2.sync.queues.length = s1.sync.queues.length ∧
      s2.localConnectStatus = s1.localConnectStatus ∧ s2.handles = s1.handles ∧
      ((reqs2 = [] ∧ s2.sync.currentFrame = s1.sync.currentFrame) ∨
       ∃ c : Nat, s1.sync.currentFrame = (c : Int) ∧ reqs2 = [.advance (rowOf gh1 s1.sync.queues.length c)] ∧
         s2.sync.currentFrame = s1.sync.currentFrame + 1) := by
  rcases lockstepAdvance_spec s1 s2 gh1 t c1 reqs2 hl1 hc1 hstep with
    ⟨hre, hse⟩ | ⟨c, gh2, hcc, hre, hsp2, hs2, hi2, hcur2, hq2, hst2, _, hh2, _, hfull2⟩
  · subst hse hre
    exact ⟨gh1, hl1, rfl, rfl, rfl, rfl, Or.inl ⟨rfl, rfl⟩⟩
  · refine ⟨gh2, ⟨SessInv_rebase s2 gh2 t reqs2 hs2, hi2, ?_, ?_⟩, hsp2, by rw [hq2], hst2, hh2,
      Or.inr ⟨c, hcc, hre, hcur2⟩⟩
    · intro p hp
      rw [hcur2, hcc, hsp2]
      exact hfull2 p (by rw [← hq2]; exact hp)
    · intro f hf
      rw [hcur2, hcc] at hf
      rw [hq2, hre, execReqs_advance (t := t) (hl1.sess.tinv.exec.trans hcc)]
      show (upd t.R c _ f).length = _ ∧ ∀ p, p < _ → ((upd t.R c _ f).getD p default).2 = _
      by_cases hfc : f = c
      · subst hfc
        rw [upd_self]
        exact ⟨rowOf_length _ _ _, fun p hp => by rw [rowOf_getD _ _ _ _ hp]⟩
      · rw [upd_ne _ _ _ _ hfc]
        exact hl1.rows f (by rw [hcc]; omega)

/-- Every simulated row is the full row of the real inputs, all Confirmed. -/
theorem LkInv.timeline {s : P2P} {gh : Ghost} {t : TLState} (h : LkInv s gh t) :
    ∀ f : Nat, (f : Int) < s.sync.currentFrame → t.R f = rowOf gh s.sync.queues.length f := by
  intro f hf
  obtain ⟨hl, hst⟩ := h.rows f hf
  refine eq_rowOf gh _ f _ hl fun p hp => Prod.ext ?_ (hst p hp)
  have hlen : f < (gh.specs p).vals.length := by have := h.full p hp; omega
  exact (h.sess.tinv.rows p hp f).symm.trans
    (timelineRight_of_clean _ _ _ _ h.sess.tinv.sync (fun q hq => (h.idle q hq).2.1) p hp f hf hlen)

theorem lockstepTail_spec (s s3 : P2P) (sy4 : SyncLayer) (gh : Ghost) (t : TLState) (now : Nat) (conf : Frame)
    (h : LkInv s gh t) (hconf : s.confirmedFrame = .ok conf)
    (hspec : s.sendConfirmedInputsToSpectators now (min conf (s.sync.currentFrame - 1)) = .ok s3)
    (hset : s3.sync.setLastConfirmedFrame (min conf (s.sync.currentFrame - 1)) s3.sparse = .ok sy4) :
    LkInv { s3 with sync := sy4 } gh t ∧ sy4.currentFrame = s.sync.currentFrame ∧
      sy4.queues.length = s.sync.queues.length := by
  have hc3 := P2P.sendConfirmed_sameCore _ _ _ _ hspec
  have hs3 : SessInv s3 gh t [] := SessInv_congr s s3 gh t [] h.sess hc3.pred hc3.sync hc3.statuses hc3.handles
  obtain ⟨hs4, hcur4, _, hql4⟩ := setLastConfirmed_spec s3 sy4 gh t [] _ hs3
    (fun p hp => by
      rw [hc3.statuses]
      rw [hc3.sync] at hp
      exact h.confirmed_le hconf _ p hp) hset
  have hcur : sy4.currentFrame = s.sync.currentFrame := by rw [hcur4, hc3.sync]
  have hq : sy4.queues.length = s.sync.queues.length := by rw [hql4, hc3.sync]
  exact ⟨h.grow hs4 (setLastConfirmed_idle _ _ _ _ (by rw [hc3.sync]; exact h.idle) hset) hcur hq
    (fun _ => Nat.le_refl _), hcur, hq⟩

/-- One lockstep `advance_frame`: the request list is empty or a single AdvanceFrame carrying the full row of
real inputs, all Confirmed; no SaveGameState, no LoadGameState, ever. -/
theorem lockstepTick_spec (s s' : P2P) (gh : Ghost) (t : TLState) (now : Nat) (reqs' : List Request)
    (h : LkInv s gh t) (hadv : s.advanceLockstepFrame now [] = .ok (s', reqs')) :
    ∃ gh', LkInv s' gh' (execReqs t reqs') ∧
      ((reqs' = [] ∧ s'.sync.currentFrame = s.sync.currentFrame) ∨
       (∃ c : Nat, s.sync.currentFrame = (c : Int) ∧ reqs' = [.advance (rowOf gh' s.sync.queues.length c)] ∧
         s'.sync.currentFrame = s.sync.currentFrame + 1)) ∧
      s'.sync.queues.length = s.sync.queues.length := by
  obtain ⟨s1, s2, s3, c1, c2, sy4, hreg, hc1, hstep, hc2, hspec, hset, rfl⟩ := P2P.advanceLockstepFrame_ok hadv
  obtain ⟨gh1, hs1, hk⟩ := registerLocalInputs_spec s s1 gh t [] now h.sess hreg
  have hl1 : LkInv s1 gh1 t := h.grow hs1 (registerLocalInputs_idle s s1 now h.idle hreg) hk.cur hk.nq hk.grows
  obtain ⟨gh2, hl2, hsp2, hq2, _, _, hcase⟩ := lockstepMid_spec s1 s2 gh1 t c1 reqs' hl1 hc1 hstep
  obtain ⟨hl4, hcur4, hq4⟩ := lockstepTail_spec s2 s3 sy4 gh2 (execReqs t reqs') now c2 hl2 hc2 hspec hset
  refine ⟨gh2, hl4, ?_, hq4.trans (hq2.trans hk.nq)⟩
  rcases hcase with ⟨hre, hcur2⟩ | ⟨c, hcc, hre, hcur2⟩
  · exact Or.inl ⟨hre, hcur4.trans (hcur2.trans hk.cur)⟩
  · refine Or.inr ⟨c, by rw [← hk.cur]; exact hcc, ?_, ?_⟩
    · rw [hre, rowOf_specs gh1 gh2 _ hsp2, hk.nq]
    · show sy4.currentFrame = _
      rw [hcur4, hcur2, hk.cur]

/-- Steps of a lockstep session and the timeline of the game it drives. -/
inductive LkStep : (P2P × TLState) → (P2P × TLState) → Prop
  | remoteInput (s s' : P2P) (t : TLState) (now : Nat) (inp : PlayerInput) (player : Nat) (handles : List Nat)
      (addr : Nat) : player ∉ s.localPlayerHandles → 0 ≤ inp.frame →
      s.handleEventCore now (.input inp player) handles addr = .ok s' → LkStep (s, t) (s', t)
  | tick (s s' : P2P) (t : TLState) (now : Nat) (reqs' : List Request) :
      s.advanceLockstepFrame now [] = .ok (s', reqs') → LkStep (s, t) (s', execReqs t reqs')
  | localInput (s : P2P) (t : TLState) (handle : Nat) (input : Input) :
      LkStep (s, t) ((s.addLocalInput handle input).1, t)

inductive LkStar : (P2P × TLState) → (P2P × TLState) → Prop
  | refl (x : P2P × TLState) : LkStar x x
  | step (x y z : P2P × TLState) : LkStar x y → LkStep y z → LkStar x z

theorem LkInv_step (x y : P2P × TLState) (h : ∃ gh, LkInv x.1 gh x.2) (hs : LkStep x y) : ∃ gh, LkInv y.1 gh y.2 := by
  obtain ⟨gh, h⟩ := h
  cases hs with
  | remoteInput s s' t now inp player handles addr hnl h0 hev =>
    obtain ⟨gh', h', _, _, _, _, hsp⟩ := remoteInput_spec s s' gh t [] now inp player handles addr h.sess hnl h0 hev
    refine ⟨gh', h.remoteInput hev h' fun p => ?_⟩
    rw [hsp p]
    split
    · exact (submit_facts (gh.specs p) inp.frame inp.input).1
    · exact Nat.le_refl _
  | tick s s' t now reqs' hadv =>
    obtain ⟨gh', h', _⟩ := lockstepTick_spec s s' gh t now reqs' h hadv
    exact ⟨gh', h'⟩
  | localInput s t handle input =>
    obtain ⟨l, hl⟩ := P2P.addLocalInput_pending s handle input
    show ∃ gh, LkInv (s.addLocalInput handle input).1 gh t
    rw [hl]
    exact ⟨gh, h.pending l⟩

/-- L-lockstep, behind the lockstep half of C04: `LkInv` holds along every run; the header's claims are
read off it by `LkInv.timeline` and `lockstepTick_spec`. -/
theorem LkInv_run (x y : P2P × TLState) (h : ∃ gh, LkInv x.1 gh x.2) (hr : LkStar x y) : ∃ gh, LkInv y.1 gh y.2 := by
  induction hr with
  | refl => exact h
  | step y z _ hs ih => exact LkInv_step y z ih hs

theorem idle_new : Idle InputQueue.new := ⟨rfl, rfl, rfl⟩

theorem LkInv_init (s : P2P) (R : Nat → List (Input × InputStatus)) (n : Nat)
    (hq : s.sync.queues = List.replicate n InputQueue.new) (hst : s.localConnectStatus = List.replicate n {})
    (hc : s.sync.currentFrame = 0) :
    LkInv s ⟨fun _ => {}, fun _ => [], fun p f => ((R f).getD p default).1⟩ ⟨0, R⟩ := by
  refine ⟨SessInv_init s R n hq hst hc, ?_, ?_, ?_⟩
  · intro p hp
    rw [hq, List.length_replicate] at hp
    rw [hq, rget_replicate _ _ _ hp]
    exact idle_new
  · intro p _
    rw [hc]; exact Int.natCast_nonneg _
  · intro f hf
    rw [hc] at hf; omega

inductive LWStep {G : Type} (step : G → List (Input × InputStatus) → G) : (P2P × GS G) → (P2P × GS G) → Prop
  | remoteInput (s s' : P2P) (x : GS G) (now : Nat) (inp : PlayerInput) (player : Nat) (handles : List Nat)
      (addr : Nat) : player ∉ s.localPlayerHandles → 0 ≤ inp.frame →
      s.handleEventCore now (.input inp player) handles addr = .ok s' → LWStep step (s, x) (s', x)
  | tick (s s' : P2P) (x : GS G) (now : Nat) (reqs' : List Request) :
      s.advanceLockstepFrame now [] = .ok (s', reqs') →
      LWStep step (s, x) (s', execGs step s.sync.cells.length x reqs')
  | localInput (s : P2P) (x : GS G) (handle : Nat) (input : Input) :
      LWStep step (s, x) ((s.addLocalInput handle input).1, x)

inductive LWStar {G : Type} (step : G → List (Input × InputStatus) → G) : (P2P × GS G) → (P2P × GS G) → Prop
  | refl (w) : LWStar step w w
  | step (a b c) : LWStar step a b → LWStep step b c → LWStar step a c

/-- Session and game: the lockstep invariant against the game's own timeline, and the game's state
the serial replay of that timeline. -/
structure LWInv {G : Type} (step : G → List (Input × InputStatus) → G) (g0 : G) (s : P2P) (x : GS G) : Prop where
  sess : ∃ gh, LkInv s gh ⟨x.cur, x.R⟩
  state : x.g = replay step g0 x.R x.cur.toNat

theorem LWInv_step {G : Type} (step : G → List (Input × InputStatus) → G) (g0 : G) (a b : P2P × GS G)
    (h : LWInv step g0 a.1 a.2) (hs : LWStep step a b) : LWInv step g0 b.1 b.2 := by
  cases hs with
  | remoteInput s s' x now inp player handles addr hnl h0 hev =>
    exact ⟨LkInv_step (s, ⟨x.cur, x.R⟩) (s', ⟨x.cur, x.R⟩) h.sess (LkStep.remoteInput s s' _ now inp player handles addr hnl h0 hev),
      h.state⟩
  | tick s s' x now reqs' hadv =>
    obtain ⟨gh, hl⟩ := h.sess
    obtain ⟨gh', hl', hcase, _⟩ := lockstepTick_spec s s' gh ⟨x.cur, x.R⟩ now reqs' hl hadv
    obtain ⟨e1, e2⟩ := execGs_cur_R step s.sync.cells.length x reqs'
    refine ⟨⟨gh', ?_⟩, ?_⟩
    · show LkInv s' gh' ⟨(execGs step s.sync.cells.length x reqs').cur, (execGs step s.sync.cells.length x reqs').R⟩
      rw [e1, e2]; exact hl'
    · show (execGs step s.sync.cells.length x reqs').g = replay step g0 (execGs step s.sync.cells.length x reqs').R
        (execGs step s.sync.cells.length x reqs').cur.toNat
      rcases hcase with ⟨hre, _⟩ | ⟨c, hc, hre, _⟩
      · rw [hre]; exact h.state
      · have hxc : x.cur = (c : Int) := hl.sess.tinv.exec.trans hc
        rw [hre]
        show step x.g _ = replay step g0 (upd x.R x.cur.toNat _) (x.cur + 1).toNat
        rw [hxc, Int.toNat_natCast_add_one, Int.toNat_natCast, replay_step, h.state, hxc, Int.toNat_natCast]
  | localInput s x handle input =>
    exact ⟨LkInv_step (s, ⟨x.cur, x.R⟩) ((s.addLocalInput handle input).1, ⟨x.cur, x.R⟩) h.sess
      (LkStep.localInput s _ handle input), h.state⟩

theorem LWInv_run {G : Type} (step : G → List (Input × InputStatus) → G) (g0 : G) (a b : P2P × GS G)
    (h : LWInv step g0 a.1 a.2) (hr : LWStar step a b) : LWInv step g0 b.1 b.2 := by
  induction hr with
  | refl => exact h
  | step b c _ hs ih => exact LWInv_step step g0 b c ih hs

end Ggrs
