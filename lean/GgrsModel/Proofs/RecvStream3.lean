/-
L-stream, receiver side (stated in RecvStream.lean): `decodeInputs` on one packet of the sender
(`L_stream_packet`), then on any sequence of them (`L_stream_run`).
-/
import GgrsModel.Proofs.RecvStream2

namespace Ggrs
open Codec (Bytes)

theorem pruneRecv_last (e : Endpoint) (hne : e.recvInputs ≠ []) :
    e.pruneRecv.recvInputs ≠ [] ∧ e.pruneRecv.lastRecvFrame = e.lastRecvFrame := by
  obtain ⟨hne', hmax⟩ := maxKey_filter e.recvInputs hne
    (fun k => decide (k ≥ e.lastRecvFrame - 2 * (e.maxPrediction : Int)))
    (decide_eq_true (by rw [← lastRecvFrame_eq]; show _ ≤ e.lastRecvFrame; omega))
  exact ⟨hne', (lastRecvFrame_eq _).trans (hmax.trans (lastRecvFrame_eq e).symm)⟩

/-- Pruning keeps the invariant: the newest entry always survives. -/
theorem RInv_prune {e : Endpoint} {S : SStream} (h : RInv e S) (hL : e.lastRecvFrame ≠ NULL_FRAME) :
    e.pruneRecv.lastRecvFrame = e.lastRecvFrame ∧ RInv e.pruneRecv S := by
  have hkeep : (fun k => decide (k ≥ e.lastRecvFrame - 2 * (e.maxPrediction : Int))) e.lastRecvFrame = true :=
    decide_eq_true (show _ ≤ e.lastRecvFrame by omega)
  obtain ⟨hne, hlast⟩ := pruneRecv_last e h.nonempty
  refine ⟨hlast, hne, hlast ▸ h.range, ?_, ?_, fun h0 => absurd (hlast ▸ h0) hL, h.width, h.itemWidth⟩
  · intro f b hf
    rw [hlast]
    have hk := (List.mem_filter.mp (alookup_some_mem _ _ _ hf)).2
    exact h.entries f b (alookup_filter f (fun k => decide (k ≥ _)) hk e.recvInputs ▸ hf)
  · intro _
    rw [hlast]
    exact (alookup_filter _ (fun k => decide (k ≥ _)) hkeep e.recvInputs).trans (h.newest hL)

/-- The reference input: either the receiver no longer holds the input before `start` (then `start` is not
the frame it is waiting for), or what it holds there is what the sender encoded against. -/
theorem RInv.reference {e : Endpoint} {S : SStream} (h : RInv e S) (start : Int) (hlo : (S.f0 : Int) ≤ start)
    (hfirst : e.lastRecvFrame = NULL_FRAME → start = S.f0) :
    (alookup (if e.lastRecvFrame == NULL_FRAME then NULL_FRAME else start - 1) e.recvInputs = none ∧
      e.lastRecvFrame ≠ NULL_FRAME ∧ start ≠ nextFrame e S) ∨
    (alookup (if e.lastRecvFrame == NULL_FRAME then NULL_FRAME else start - 1) e.recvInputs = some (S.refAt start) ∧
      start ≤ nextFrame e S) := by
  have hnull : NULL_FRAME = (-1 : Int) := rfl
  by_cases h0 : e.lastRecvFrame = NULL_FRAME
  · rw [if_pos (beq_iff_eq.mpr h0), h.fresh h0, SStream.refAt, if_pos (hfirst h0)]
    exact Or.inr ⟨rfl, by unfold nextFrame; rw [if_pos h0, hfirst h0]; exact Int.le_refl _⟩
  · rw [if_neg (mt beq_iff_eq.mp h0)]
    have hn : nextFrame e S = e.lastRecvFrame + 1 := if_neg h0
    cases hlk : alookup (start - 1) e.recvInputs with
    | none =>
      refine Or.inl ⟨rfl, h0, fun hst => ?_⟩
      have : start - 1 = e.lastRecvFrame := by rw [hst, hn, Int.add_sub_cancel]
      rw [this, h.newest h0] at hlk
      cases hlk
    | some r =>
      right
      rcases h.entries _ _ hlk with ⟨h1, h2⟩ | ⟨h1, h2, h3⟩
      · -- the blank reference is still there and `start = 0`
        have hr := h.range
        rw [SStream.refAt, if_pos (by omega), h2]
        exact ⟨rfl, by omega⟩
      · rw [SStream.refAt, if_neg (Int.ne_of_gt (Int.lt_of_le_of_lt h1 (Int.sub_one_lt_of_le (Int.le_refl _)))), h3, hn]
        exact ⟨rfl, Int.le_add_of_sub_right_le h2⟩

theorem max_succ_pred (L a : Int) : max (L + 1) a - 1 = max L (a - 1) := by
  rcases Int.le_total (L + 1) a with h | h
  · rw [Int.max_eq_right h, Int.max_eq_right (Int.le_sub_one_of_lt (Int.lt_of_add_one_le h))]
  · rw [Int.max_eq_left h, Int.max_eq_left (Int.sub_right_le_of_le_add h), Int.add_sub_cancel]

theorem nextFrame_pred {e : Endpoint} {S : SStream} (h : RInv e S) (hn : (S.f0 : Int) < nextFrame e S) :
    e.lastRecvFrame = nextFrame e S - 1 := by
  rcases nextFrame_cases h with ⟨_, h1⟩ | ⟨_, _, h1⟩
  · exact absurd (h1 ▸ hn) (Int.lt_irrefl _)
  · rw [h1, Int.add_sub_cancel]

theorem last_of_nextFrame {e e' : Endpoint} {S : SStream} (h : RInv e S) (h' : RInv e' S) {start : Int} {n : Nat}
    (hn : n ≥ 1) (hlo : (S.f0 : Int) ≤ start) (hnext : nextFrame e' S = max (nextFrame e S) (start + (n : Int))) :
    e'.lastRecvFrame ≠ NULL_FRAME ∧ e'.lastRecvFrame = max e.lastRecvFrame (start + (n : Int) - 1) ∧
    (start = nextFrame e S → e'.lastRecvFrame = start + (n : Int) - 1) := by
  have hsn : start < start + (n : Int) := Int.lt_add_of_pos_right _ (Int.natCast_pos.mpr hn)
  have hlt : (S.f0 : Int) < start + (n : Int) := Int.lt_of_le_of_lt hlo hsn
  have h0 : (-1 : Int) < start + (n : Int) - 1 :=
    Int.lt_of_lt_of_le (by decide) (Int.le_sub_one_of_lt (Int.lt_of_le_of_lt (Int.natCast_nonneg S.f0) hlt))
  -- the packet ends beyond the stream's first frame, so `e'` waits for a frame beyond it
  rw [nextFrame_pred h' (hnext ▸ Int.lt_of_lt_of_le hlt (Int.le_max_right _ _)), hnext]
  refine ⟨Int.ne_of_gt (Int.lt_of_lt_of_le h0 (Int.sub_le_sub_right (Int.le_max_right _ _) 1)), ?_,
    fun hs => by rw [← hs, Int.max_eq_right (Int.le_of_lt hsn)]⟩
  rcases nextFrame_cases h with ⟨hL, hN⟩ | ⟨_, _, hN⟩
  · rw [hL, hN, Int.max_eq_right (Int.le_of_lt hlt), Int.max_eq_right (Int.le_of_lt h0)]
  · rw [hN, max_succ_pred]

/-- One sender packet: handling `encode(ref, S[start .. start+n))` keeps the receiver's invariant, never moves
its newest frame backwards, and raises exactly the Input events of the frames between its old and its new
newest frame — whichever frames of the packet the receiver already had. -/
theorem L_stream_packet (e : Endpoint) (S : SStream) (now : Nat) (start : Int) (n : Nat)
    (h : RInv e S) (hn : n ≥ 1) (hlo : (S.f0 : Int) ≤ start) (hhi : start + (n : Int) - 1 ≤ S.last)
    (hfirst : e.lastRecvFrame = NULL_FRAME → start = S.f0)
    (hsize : S.width ≤ 65535) (hcap : Codec.encodedSize (S.slice start n) ≤ MAX_DECODED_BYTES) :
    RInv (e.decodeInputs now start (Codec.encode (S.refAt start) (S.slice start n))) S ∧
    (e.decodeInputs now start (Codec.encode (S.refAt start) (S.slice start n))).handles = e.handles ∧
    (e.lastRecvFrame = NULL_FRAME →
      (e.decodeInputs now start (Codec.encode (S.refAt start) (S.slice start n))).lastRecvFrame ≠ NULL_FRAME) ∧
    (e.decodeInputs now start (Codec.encode (S.refAt start) (S.slice start n))).lastRecvFrame ≥ e.lastRecvFrame ∧
    (e.decodeInputs now start (Codec.encode (S.refAt start) (S.slice start n))).eventQueue =
      e.eventQueue ++ evsRange S e.handles (nextFrame e S)
        (nextFrame (e.decodeInputs now start (Codec.encode (S.refAt start) (S.slice start n))) S - nextFrame e S).toNat ∧
    (e.decodeInputs now start (Codec.encode (S.refAt start) (S.slice start n))).sendQueue =
      e.sendQueue ++ [⟨e.magic, .inputAck
        (e.decodeInputs now start (Codec.encode (S.refAt start) (S.slice start n))).lastRecvFrame⟩] ∧
    (e.decodeInputs now start (Codec.encode (S.refAt start) (S.slice start n))).lastRecvFrame
      ≤ max e.lastRecvFrame (start + (n : Int) - 1) ∧
    (start = nextFrame e S →
      (e.decodeInputs now start (Codec.encode (S.refAt start) (S.slice start n))).lastRecvFrame = start + (n : Int) - 1) ∧
    (∀ ref inputs, alookup (if e.lastRecvFrame == NULL_FRAME then NULL_FRAME else start - 1) e.recvInputs = some ref →
      Codec.decode ref (Codec.encode (S.refAt start) (S.slice start n)) = .ok inputs →
      (Endpoint.acceptInputs { e with runningLastInputRecv := now } start inputs 0).2 = true) := by
  rcases h.reference start hlo hfirst with ⟨hlk, hL, hst⟩ | ⟨hlk, hst⟩
  · rw [Endpoint.decodeInputs_of_none hlk]
    have hl : (e.sendInputAck now).lastRecvFrame = e.lastRecvFrame := rfl
    refine ⟨RInv_congr h rfl rfl, rfl, fun h0 => absurd h0 hL, Int.le_refl _, ?_, rfl, Int.le_max_left _ _,
      fun h0 => absurd h0 hst, fun ref _ h1 => by rw [hlk] at h1; cases h1⟩
    rw [nextFrame_of_last hl, Int.sub_self]
    exact (List.append_nil _).symm
  · have hdec : Codec.decode (S.refAt start) (Codec.encode (S.refAt start) (S.slice start n)) = .ok (S.slice start n) :=
      Codec.decode_encode _ _ (fun x hx => h.itemWidth x (slice_mem S start n x hx) ▸ hsize) hcap
    have hn1 : nextFrame ({ e with runningLastInputRecv := now } : Endpoint) S = nextFrame e S := rfl
    obtain ⟨hh2, hsq2, hmp2, hmg2⟩ := acceptInputs_fields start (S.slice start n) { e with runningLastInputRecv := now } 0
    obtain ⟨e2, hacc, hinv2, hnext2, hev2⟩ := acceptInputs_slice S n start { e with runningLastInputRecv := now }
      (RInv_congr h rfl rfl) hlo hhi hst
    rw [hn1] at hnext2 hev2
    rw [hacc] at hh2 hsq2 hmp2 hmg2
    obtain ⟨hne2, hL2, hL2'⟩ := last_of_nextFrame h hinv2 hn hlo hnext2
    rw [Endpoint.decodeInputs_of_accepted hlk hdec hacc]
    obtain ⟨hL3, hinv3⟩ := RInv_prune (RInv_congr hinv2 rfl rfl : RInv (e2.sendInputAck now) S) hne2
    have hL3 : (e2.sendInputAck now).pruneRecv.lastRecvFrame = e2.lastRecvFrame := hL3
    rw [hL3, nextFrame_of_last hL3]
    refine ⟨hinv3, hh2, fun _ => hne2, hL2 ▸ Int.le_max_left _ _, hev2, ?_, Int.le_of_eq hL2, hL2', ?_⟩
    · show e2.sendQueue ++ [⟨e2.magic, .inputAck e2.lastRecvFrame⟩] = _
      rw [hsq2, hmg2]
    · intro ref' inputs' h1 h2
      rw [hlk] at h1
      cases h1
      rw [hdec] at h2
      cases h2
      rw [hacc]

theorem evsRange_append (S : SStream) (hs : List Nat) : ∀ (k m : Nat) (a : Int),
    evsRange S hs a k ++ evsRange S hs (a + (k : Int)) m = evsRange S hs a (k + m) := by
  intro k
  induction k with
  | zero => intro m a; rw [Nat.zero_add, Int.natCast_zero, Int.add_zero]; rfl
  | succ k ih =>
    intro m a
    have h2 : a + ((k + 1 : Nat) : Int) = a + 1 + (k : Int) := by rw [Int.add_assoc, Int.add_comm 1]; rfl
    rw [Nat.add_right_comm k 1 m, h2]
    simp only [evsRange, List.append_assoc, ih]

theorem evsRange_split (S : SStream) (hs : List Nat) {a b c : Int} (hab : a ≤ b) (hbc : b ≤ c) :
    evsRange S hs a (b - a).toNat ++ evsRange S hs b (c - b).toNat = evsRange S hs a (c - a).toNat := by
  have h2 : (c - a).toNat = (b - a).toNat + (c - b).toNat := by
    rw [← Int.toNat_add (Int.sub_nonneg.mpr hab) (Int.sub_nonneg.mpr hbc)]
    congr 1
    omega
  rw [h2, ← evsRange_append, add_toNat_sub hab]

/-- A packet of the sender: `n ≥ 1` consecutive frames of the stream starting at `start`. -/
structure PacketOk (S : SStream) (p : Int × Nat) : Prop where
  pos : p.2 ≥ 1
  lo : (S.f0 : Int) ≤ p.1
  hi : p.1 + (p.2 : Int) - 1 ≤ S.last
  cap : Codec.encodedSize (S.slice p.1 p.2) ≤ MAX_DECODED_BYTES

def runPackets (S : SStream) (now : Nat) : Endpoint → List (Int × Nat) → Endpoint
  | e, [] => e
  | e, p :: rest =>
    runPackets S now (e.decodeInputs now p.1 (Codec.encode (S.refAt p.1) (S.slice p.1 p.2))) rest

/-- L-stream: deliver ANY sequence of the sender's packets (any subset, order, repetitions), as long as the
very first one the receiver ever sees starts at the stream's first frame (the sender cannot have advanced
its window before anything was acknowledged). The Input events raised are exactly those of the frames
between the old and the new newest frame: a gapless, in-order prefix of the sender's stream. -/
theorem L_stream_run (S : SStream) (now : Nat) (hsize : S.width ≤ 65535) :
    ∀ (packets : List (Int × Nat)) (e : Endpoint),
    RInv e S → (∀ p ∈ packets, PacketOk S p) →
    (e.lastRecvFrame = NULL_FRAME → ∀ p, packets.head? = some p → p.1 = S.f0) →
    RInv (runPackets S now e packets) S ∧
    (runPackets S now e packets).lastRecvFrame ≥ e.lastRecvFrame ∧
    (runPackets S now e packets).eventQueue = e.eventQueue ++
      evsRange S e.handles (nextFrame e S) (nextFrame (runPackets S now e packets) S - nextFrame e S).toNat := by
  intro packets
  induction packets with
  | nil => intro e h _ _; exact ⟨h, Int.le_refl _, by simp [runPackets, evsRange]⟩
  | cons p rest ih =>
    intro e h hok hfirst
    have hp := hok p List.mem_cons_self
    obtain ⟨hinv1, hh1, hne1, hge1, hev1, _⟩ := L_stream_packet e S now p.1 p.2 h hp.pos hp.lo hp.hi
      (fun h0 => hfirst h0 p rfl) hsize hp.cap
    simp only [runPackets]
    generalize e.decodeInputs now p.1 (Codec.encode (S.refAt p.1) (S.slice p.1 p.2)) = e1 at *
    -- once something has arrived, the condition on the first packet is void
    have hseen : e1.lastRecvFrame ≠ NULL_FRAME :=
      Classical.byCases hne1 (h.seen_mono hge1)
    obtain ⟨hinv2, hge2, hev2⟩ := ih e1 hinv1 (fun q hq => hok q (List.mem_cons_of_mem _ hq))
      (fun h1 => absurd h1 hseen)
    refine ⟨hinv2, Int.le_trans hge1 hge2, ?_⟩
    rw [hev2, hev1, hh1, List.append_assoc,
      evsRange_split S e.handles (nextFrame_mono h hinv1 hge1) (nextFrame_mono hinv1 hinv2 hge2)]

/-- Non-vacuity of `L_stream_run`. -/
theorem RInv_new (handles : List Nat) (peerAddr numPlayers localPlayers maxPrediction dt dn fps : Nat)
    (desync : Option Nat) (magic now : Nat) (S : SStream)
    (hw : S.width = INPUT_SIZE * handles.length) (hh : handles.length > 0)
    (hitems : ∀ b ∈ S.items, b.length = S.width) :
    RInv (Endpoint.new handles peerAddr numPlayers localPlayers maxPrediction dt dn fps desync magic now) S := by
  have hlen : (handles.mergeSort (· ≤ ·)).length = handles.length := List.length_mergeSort _
  have hL : (Endpoint.new handles peerAddr numPlayers localPlayers maxPrediction dt dn fps desync magic now).lastRecvFrame = NULL_FRAME := by
    simp [Endpoint.new, Endpoint.lastRecvFrame]
  refine ⟨by simp [Endpoint.new], Or.inl hL, ?_, fun h0 => absurd hL h0, ?_, ?_, hitems⟩
  · intro f b hf
    simp only [Endpoint.new, alookup] at hf
    split at hf
    · rename_i hk
      cases hf
      left
      refine ⟨(by simpa using hk : NULL_FRAME = f).symm, ?_⟩
      simp [SStream.zerosB, hw, hlen]
    · cases hf
  · intro _
    simp [Endpoint.new, alookup, SStream.zerosB, hw, hlen]
  · simp only [Endpoint.new, hlen]
    exact ⟨hw, hh⟩

end Ggrs
