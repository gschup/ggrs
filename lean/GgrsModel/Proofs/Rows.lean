/-
The full row of a frame: every player's real input, Confirmed. What `synchronized_inputs` returns
once every input of the frame has arrived, in a sync test as in a lockstep session.
-/
import GgrsModel.Proofs.Replay

namespace Ggrs

def rowOf (gh : Ghost) (N : Nat) (f : Nat) : List (Input × InputStatus) :=
  (List.range N).map fun p => ((gh.specs p).vals.getD f 0, InputStatus.confirmed)

theorem rget_eq_getElem {α} [Inhabited α] (l : List α) (p : Nat) (hp : p < l.length) : rget l p = l[p] := by
  simp [rget, List.getD_eq_getElem?_getD, hp]

theorem eq_map_range {α} [Inhabited α] (N : Nat) (g : Nat → α) (l : List α) (hlen : l.length = N)
    (h : ∀ p, p < N → rget l p = g p) : l = (List.range N).map g := by
  apply List.ext_getElem (by rw [hlen, List.length_map, List.length_range])
  intro p h1 h2
  rw [← rget_eq_getElem _ _ h1, h p (hlen ▸ h1), List.getElem_map, List.getElem_range]

theorem rowOf_length (gh : Ghost) (N f : Nat) : (rowOf gh N f).length = N := by simp [rowOf]

theorem rowOf_getD (gh : Ghost) (N f p : Nat) (hp : p < N) :
    (rowOf gh N f).getD p default = ((gh.specs p).vals.getD f 0, InputStatus.confirmed) := by
  simp [rowOf, List.getD_eq_getElem?_getD, hp]

theorem eq_rowOf (gh : Ghost) (N f : Nat) (l : List (Input × InputStatus)) (hlen : l.length = N)
    (h : ∀ p, p < N → rget l p = ((gh.specs p).vals.getD f 0, InputStatus.confirmed)) : l = rowOf gh N f :=
  eq_map_range N _ l hlen h

theorem rowOf_congr (gh gh' : Ghost) (N f : Nat)
    (h : ∀ p, p < N → (gh'.specs p).vals.getD f 0 = (gh.specs p).vals.getD f 0) : rowOf gh' N f = rowOf gh N f := by
  unfold rowOf
  apply List.map_congr_left
  intro p hp
  rw [h p (List.mem_range.mp hp)]

theorem rowOf_specs (gh gh' : Ghost) (N : Nat) (h : gh'.specs = gh.specs) : rowOf gh' N = rowOf gh N := by
  unfold rowOf; rw [h]

theorem inputs_eq_row (pr : Predictor) (gh : Ghost) (N c : Nat) (ins : List (Input × InputStatus))
    (hlen : ins.length = N) (hok : InputsOk pr gh c ins) (hfull : ∀ p, p < N → c < (gh.specs p).vals.length) :
    ins = rowOf gh N c := by
  refine eq_rowOf gh N c ins hlen fun p hp => ?_
  rcases hok p (by rw [hlen]; exact hp) with ⟨a, _, b⟩ | ⟨_, a, _⟩
  · exact Prod.ext b a
  · have := hfull p hp; omega

end Ggrs
