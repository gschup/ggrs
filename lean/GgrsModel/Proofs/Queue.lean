/-
The input queue ring refines an unbounded history (L-queue).

`QSpec` is the specification of one player's input stream: a plain list `vals` (index = frame),
the last user frame and the delay. `Refines q s` says the 128-slot ring of `q` holds exactly the
last (up to) 128 entries of `s.vals`, slot `f % 128` holding frame `f`, and the bookkeeping
fields agree.
-/
import GgrsModel.Model.InputQueue
import GgrsModel.Proofs.Monad

namespace Ggrs

theorem int_succ_pred (f n : Int) (h : f = n - 1 + 1) : f = n := by omega
theorem natCast_ne_null (n : Nat) : (n : Int) ≠ NULL_FRAME := by
  rw [NULL_FRAME]
  omega

theorem int_pred_ne_neg_one (n : Nat) (hn : n ≠ 0) : (n : Int) - 1 ≠ -1 := by omega

theorem rget_rset_eq {α} [Inhabited α] (l : List α) (i : Nat) (v : α) (h : i < l.length) :
    rget (rset l i v) i = v := by
  simp [rget, rset, List.getD_eq_getElem?_getD, h]

theorem rget_rset_ne {α} [Inhabited α] (l : List α) (i j : Nat) (v : α) (h : i ≠ j) :
    rget (rset l i v) j = rget l j := by
  simp [rget, rset, List.getD_eq_getElem?_getD, List.getElem?_set_ne h]

theorem rget_rset {α} [Inhabited α] (l : List α) (p i : Nat) (v : α) (hp : p < l.length) :
    rget (rset l p v) i = if i = p then v else rget l i := by
  split
  · rename_i h; rw [h, rget_rset_eq _ _ _ hp]
  · rename_i h; rw [rget_rset_ne _ _ _ _ fun e => h e.symm]

theorem rset_length {α} (l : List α) (i : Nat) (v : α) : (rset l i v).length = l.length := by
  simp [rset]

theorem rset_rset {α} (l : List α) (i : Nat) (a b : α) : rset (rset l i a) i b = rset l i b := by
  simp [rset, List.set_set]

theorem rset_rget_self {α} [Inhabited α] (l : List α) (i : Nat) (h : i < l.length) : rset l i (rget l i) = l := by
  simp [rset, rget, List.getD_eq_getElem?_getD, List.getElem?_eq_getElem h]

theorem mem_rset {α} (l : List α) (i : Nat) (v x : α) (h : x ∈ rset l i v) : x = v ∨ x ∈ l :=
  (List.mem_or_eq_of_mem_set h).symm

theorem rget_replicate {α} [Inhabited α] (n i : Nat) (a : α) (h : i < n) : rget (List.replicate n a) i = a := by
  simp [rget, List.getD_eq_getElem?_getD, h]

theorem getD_append_lt {α} {d : α} (vals : List α) (x : α) (g : Nat) (h : g < vals.length) :
    (vals ++ [x]).getD g d = vals.getD g d := by
  simp [List.getD_eq_getElem?_getD, List.getElem?_append_left h]

theorem getD_append_eq {α} {d : α} (vals : List α) (x : α) : (vals ++ [x]).getD vals.length d = x := by
  simp [List.getD_eq_getElem?_getD]

theorem frameIdx_natCast (k n : Nat) : frameIdx (k : Int) n = k % n := by
  simp [frameIdx, usizeOfFrame]

theorem frameIdx_of_nonneg {f : Frame} (n : Nat) (h : 0 ≤ f) : frameIdx f n = f.toNat % n := by
  simp [frameIdx, usizeOfFrame, h]

theorem mod_ne_of_window {n k m : Nat} (h1 : k < m) (h2 : m < k + n) : m % n ≠ k % n := by
  intro h
  have h0 := Nat.sub_mod_eq_zero_of_mod_eq h
  rw [Nat.mod_eq_of_lt (by omega)] at h0
  omega

theorem mod_offset {n t r : Nat} (h : t ≤ r) : (r - t + t % n) % n = r % n := by
  rw [Nat.add_mod, Nat.mod_mod, ← Nat.add_mod, Nat.sub_add_cancel h]

theorem exists_newest_in_slot {n m i : Nat} (hi : i < n) (hm : i < m) :
    ∃ g, g < m ∧ m ≤ g + n ∧ g % n = i := by
  refine ⟨i + n * ((m - 1 - i) / n), ?_, ?_, ?_⟩
  · have := Nat.mul_div_le (m - 1 - i) n
    omega
  · have := Nat.lt_mul_div_succ (m - 1 - i) (Nat.zero_lt_of_lt hi)
    rw [Nat.mul_add, Nat.mul_one] at this
    omega
  · rw [Nat.add_mul_mod_self_left, Nat.mod_eq_of_lt hi]

theorem InputQueue.prevPos_succ (k : Nat) :
    InputQueue.prevPos ((k + 1) % INPUT_QUEUE_LENGTH) = k % INPUT_QUEUE_LENGTH := by
  have hr : k % INPUT_QUEUE_LENGTH < INPUT_QUEUE_LENGTH := Nat.mod_lt _ (by decide)
  rw [InputQueue.prevPos, Nat.add_mod, show 1 % INPUT_QUEUE_LENGTH = 1 from rfl]
  generalize k % INPUT_QUEUE_LENGTH = r at hr ⊢
  by_cases h : r + 1 < INPUT_QUEUE_LENGTH
  · rw [Nat.mod_eq_of_lt h, if_neg (by simp)]
    rfl
  · have : r = INPUT_QUEUE_LENGTH - 1 := by simp only [INPUT_QUEUE_LENGTH] at hr h ⊢; omega
    subst this
    rfl

structure QSpec where
  vals : List Input := []
  lastUser : Int := -1
  delay : Nat := 0

namespace QSpec

def lastVal (s : QSpec) : Input := s.vals.getLast?.getD 0

def fillList (start : Int) (v : Input) : Nat → List PlayerInput
  | 0 => []
  | n + 1 => ⟨start, v⟩ :: fillList (start + 1) v n

/-- `add_input` on the stream. A submission for user frame `uf`: dropped unless sequential; lands on
`uf + delay`; dropped if the stream is already past that frame (delay decreased); the frames in between
repeat the last value. -/
def submit (s : QSpec) (uf : Int) (v : Input) : QSpec × Frame :=
  if s.lastUser != -1 && uf != s.lastUser + 1 then (s, NULL_FRAME)
  else
    let s := { s with lastUser := uf }
    let target := uf + s.delay
    if (s.vals.length : Int) > target then (s, NULL_FRAME)
    else ({ s with vals := s.vals ++ List.replicate (target - s.vals.length).toNat s.lastVal ++ [v] }, target)

/-- `set_frame_delay` on the stream: once the stream has a first entry, the frames the new delay opens
up in front of the next submission repeat the last value. Returns the new entries as (frame, value). -/
def setDelay (s : QSpec) (d : Nat) : QSpec × List PlayerInput :=
  let s := { s with delay := d }
  if s.vals.length == 0 then (s, [])
  else
    let k := (s.lastUser + 1 + d - s.vals.length).toNat
    ({ s with vals := s.vals ++ List.replicate k s.lastVal }, fillList s.vals.length s.lastVal k)

theorem submit_gap {s : QSpec} {uf : Int} (v : Input) (h : s.lastUser ≠ -1 ∧ uf ≠ s.lastUser + 1) :
    s.submit uf v = (s, NULL_FRAME) := by
  have hc : (s.lastUser != -1 && uf != s.lastUser + 1) = true := by
    rw [Bool.and_eq_true, bne_iff_ne, bne_iff_ne]; exact h
  rw [submit, if_pos hc]

theorem submit_seq {s : QSpec} {uf : Int} (v : Input) (h : s.lastUser = -1 ∨ uf = s.lastUser + 1) :
    s.submit uf v = if (s.vals.length : Int) > uf + s.delay then ({ s with lastUser := uf }, NULL_FRAME)
      else ({ s with lastUser := uf,
                     vals := s.vals ++ List.replicate (uf + s.delay - s.vals.length).toNat s.lastVal ++ [v] },
            uf + s.delay) := by
  have hc : ¬ (s.lastUser != -1 && uf != s.lastUser + 1) = true := by
    rw [Bool.and_eq_true, bne_iff_ne, bne_iff_ne]
    exact fun hg => h.elim hg.1 hg.2
  rw [submit, if_neg hc]
  rfl

theorem setDelay_empty {s : QSpec} (d : Nat) (h : s.vals.length = 0) : s.setDelay d = ({ s with delay := d }, []) := by
  rw [setDelay, if_pos (beq_iff_eq.mpr h)]

theorem setDelay_started {s : QSpec} (d : Nat) (h : s.vals.length ≠ 0) :
    s.setDelay d = ({ s with delay := d,
                             vals := s.vals ++ List.replicate (s.lastUser + 1 + d - s.vals.length).toNat s.lastVal },
      fillList s.vals.length s.lastVal (s.lastUser + 1 + d - s.vals.length).toNat) := by
  rw [setDelay, if_neg (mt beq_iff_eq.mp h)]
  rfl

theorem seq_of_not_gap {s : QSpec} {uf : Int} (h : ¬ (s.lastUser ≠ -1 ∧ uf ≠ s.lastUser + 1)) :
    s.lastUser = -1 ∨ uf = s.lastUser + 1 :=
  Classical.or_iff_not_imp_left.mpr fun h1 => Classical.not_not.mp fun h2 => h ⟨h1, h2⟩

end QSpec

theorem submit_cases (s : QSpec) (uf : Int) (v : Input) :
    ((s.submit uf v).2 = NULL_FRAME ∧ (s.submit uf v).1.vals = s.vals) ∨
    ((s.vals.length : Int) ≤ uf + s.delay ∧ (s.submit uf v).2 = uf + s.delay ∧ (s.submit uf v).1.vals =
      s.vals ++ List.replicate (uf + (s.delay : Int) - (s.vals.length : Int)).toNat s.lastVal ++ [v]) := by
  by_cases hg : s.lastUser ≠ -1 ∧ uf ≠ s.lastUser + 1
  · rw [QSpec.submit_gap v hg]
    exact Or.inl ⟨rfl, rfl⟩
  · rw [QSpec.submit_seq v (QSpec.seq_of_not_gap hg)]
    split
    · exact Or.inl ⟨rfl, rfl⟩
    · exact Or.inr ⟨Int.not_lt.mp ‹_›, rfl, rfl⟩

theorem length_landed (vals : List Input) (t : Int) (x v : Input) (h : ¬ (vals.length : Int) > t) :
    ((vals ++ List.replicate (t - vals.length).toNat x ++ [v]).length : Int) = t + 1 := by
  rw [List.length_append, List.length_append, List.length_replicate, List.length_singleton, Int.natCast_add,
    Int.natCast_add, Int.toNat_of_nonneg (Int.sub_nonneg.mpr (Int.not_lt.mp h)), Int.add_comm (vals.length : Int),
    Int.sub_add_cancel]
  rfl

structure Refines (q : InputQueue) (s : QSpec) : Prop where
  len : q.inputs.length = INPUT_QUEUE_LENGTH
  head : q.head = s.vals.length % INPUT_QUEUE_LENGTH
  first : q.firstFrame = (s.vals.length == 0)
  lastAdded : q.lastAddedFrame = (s.vals.length : Int) - 1
  lastUser : q.lastUserFrame = s.lastUser
  delay : q.frameDelay = s.delay
  noPrediction : q.prediction.frame = NULL_FRAME
  slots : ∀ k : Nat, k < s.vals.length → s.vals.length ≤ k + INPUT_QUEUE_LENGTH →
    rget q.inputs (k % INPUT_QUEUE_LENGTH) = ⟨(k : Int), s.vals.getD k 0⟩
  empty : s.vals.length = 0 → rget q.inputs (INPUT_QUEUE_LENGTH - 1) = PlayerInput.blank NULL_FRAME

theorem refines_new : Refines InputQueue.new {} :=
  ⟨List.length_replicate, rfl, rfl, rfl, rfl, rfl, rfl, fun k hk => absurd hk (Nat.not_lt_zero k),
    fun _ => rget_replicate _ _ _ (by decide)⟩

theorem Refines.congr {q q' : InputQueue} {s : QSpec} (h : Refines q s)
    (e : (q'.inputs, q'.head, q'.firstFrame, q'.lastAddedFrame, q'.lastUserFrame, q'.frameDelay, q'.prediction.frame) =
      (q.inputs, q.head, q.firstFrame, q.lastAddedFrame, q.lastUserFrame, q.frameDelay, q.prediction.frame)) :
    Refines q' s := by
  simp only [Prod.mk.injEq] at e
  obtain ⟨e1, e2, e3, e4, e5, e6, e7⟩ := e
  exact ⟨e1 ▸ h.len, e2 ▸ h.head, e3 ▸ h.first, e4 ▸ h.lastAdded, e5 ▸ h.lastUser, e6 ▸ h.delay, e7 ▸ h.noPrediction,
    e1 ▸ h.slots, e1 ▸ h.empty⟩

theorem getLast?_getD_eq {vals : List Input} (h : vals.length > 0) :
    vals.getLast?.getD 0 = vals.getD (vals.length - 1) 0 := by
  cases vals with
  | nil => simp at h
  | cons a as =>
    simp [List.getLast?_eq_getElem?, List.getD_eq_getElem?_getD]

theorem prev_entry (q : InputQueue) (s : QSpec) (h : Refines q s) :
    rget q.inputs (InputQueue.prevPos q.head) = ⟨(s.vals.length : Int) - 1, s.lastVal⟩ := by
  by_cases hn : s.vals.length = 0
  · have hh : InputQueue.prevPos q.head = INPUT_QUEUE_LENGTH - 1 := by rw [h.head, hn]; rfl
    rw [hh, h.empty hn, QSpec.lastVal, hn, List.length_eq_zero_iff.mp hn]
    rfl
  · obtain ⟨m, hm⟩ := Nat.exists_eq_succ_of_ne_zero hn
    have e1 : ((m + 1 : Nat) : Int) - 1 = (m : Int) := by rw [Int.natCast_add]; exact Int.add_sub_cancel _ _
    have hw : s.vals.length ≤ m + INPUT_QUEUE_LENGTH := by rw [hm]; exact Nat.add_le_add_left (by decide : 1 ≤ INPUT_QUEUE_LENGTH) m
    rw [h.head, QSpec.lastVal, getLast?_getD_eq (Nat.pos_of_ne_zero hn), hm, InputQueue.prevPos_succ,
      h.slots m (hm ▸ Nat.lt_succ_self m) hw, e1, Nat.succ_sub_one]

namespace InputQueue

theorem addInputByFrame_eq_ok {q q' : InputQueue} {inp : PlayerInput} {f : Frame} :
    q.addInputByFrame inp f = .ok q' ↔
    (q.lastAddedFrame = NULL_FRAME ∨ f = q.lastAddedFrame + 1) ∧
    (f = 0 ∨ (rget q.inputs (prevPos q.head)).frame = f - 1) ∧
    q.length + 1 ≤ INPUT_QUEUE_LENGTH ∧
    (q.prediction.frame ≠ NULL_FRAME → f = q.prediction.frame) ∧
    q' = { q with
      inputs := rset q.inputs q.head ⟨f, inp.input⟩, head := (q.head + 1) % INPUT_QUEUE_LENGTH,
      length := q.length + 1, firstFrame := false, lastAddedFrame := f,
      firstIncorrectFrame :=
        if q.prediction.frame ≠ NULL_FRAME ∧ q.firstIncorrectFrame = NULL_FRAME ∧ q.prediction.input ≠ inp.input
        then f else q.firstIncorrectFrame,
      prediction := ⟨
        if q.prediction.frame = NULL_FRAME ∨ q.prediction.frame = q.lastRequestedFrame ∧
          (if q.firstIncorrectFrame = NULL_FRAME ∧ q.prediction.input ≠ inp.input then f
            else q.firstIncorrectFrame) = NULL_FRAME
        then NULL_FRAME else q.prediction.frame + 1, q.prediction.input⟩ } := by
  unfold addInputByFrame
  simp only [ensure_bind_eq_ok, Bool.or_eq_true, Bool.and_eq_true, beq_iff_eq, bne_iff_ne, ne_eq, decide_eq_true_eq,
    eq_comm (a := q')]
  -- one case for each path through the function; the inner `if`s are decided before anything is projected
  by_cases hp : q.prediction.frame = NULL_FRAME
  · have he : q.prediction = ⟨NULL_FRAME, q.prediction.input⟩ := by rw [← hp]
    simp only [hp, not_true_eq_false, if_false, pure_eq_ok, false_and, false_implies, true_and, true_or, if_true, ← he]
  · simp only [hp, not_false_eq_true, if_true, true_and, false_or, forall_const, ensure_bind_eq_ok, beq_iff_eq]
    by_cases hm : q.firstIncorrectFrame = NULL_FRAME ∧ q.prediction.input ≠ inp.input
    · simp only [hm, not_false_eq_true, and_self, if_true]
      by_cases hex : q.prediction.frame = q.lastRequestedFrame ∧ f = NULL_FRAME
      · simp only [hex, and_self, if_true, pure_eq_ok]
      · simp only [hex, if_false, pure_eq_ok]
    · simp only [hm, if_false]
      by_cases hex : q.prediction.frame = q.lastRequestedFrame ∧ q.firstIncorrectFrame = NULL_FRAME
      · simp only [hex, and_self, if_true, pure_eq_ok]
      · simp only [hex, if_false, pure_eq_ok]

end InputQueue

theorem refines_addByFrame (q q' : InputQueue) (s : QSpec) (inp : PlayerInput) (f : Frame)
    (h : Refines q s) (hadd : q.addInputByFrame inp f = .ok q') :
    f = (s.vals.length : Int) ∧ Refines q' { s with vals := s.vals ++ [inp.input] } := by
  obtain ⟨hseq, hprev, _, _, rfl⟩ := InputQueue.addInputByFrame_eq_ok.mp hadd
  have hf : f = (s.vals.length : Int) := by
    rw [h.lastAdded, NULL_FRAME] at hseq
    rw [prev_entry q s h] at hprev
    simp only at hprev
    omega
  subst hf
  have hp : (q.prediction.frame = NULL_FRAME) := h.noPrediction
  have hhead : q.head < q.inputs.length := by rw [h.head, h.len]; exact Nat.mod_lt _ (by decide)
  refine ⟨rfl, (rset_length ..).trans h.len, ?_, ?_, ?_, h.lastUser, h.delay, if_pos (Or.inl hp), ?_, ?_⟩
  · show (q.head + 1) % INPUT_QUEUE_LENGTH = (s.vals ++ [inp.input]).length % INPUT_QUEUE_LENGTH
    rw [h.head, List.length_append, List.length_singleton, Nat.mod_add_mod]
  · exact (beq_eq_false_iff_ne.mpr (by simp)).symm
  · show ((s.vals.length : Nat) : Int) = ((s.vals ++ [inp.input]).length : Int) - 1
    rw [List.length_append, List.length_singleton, Int.natCast_add]
    exact (Int.add_sub_cancel _ _).symm
  · intro k hk hw
    rw [List.length_append, List.length_singleton] at hk hw
    show rget (rset q.inputs q.head _) _ = _
    by_cases hkn : k = s.vals.length
    · subst hkn
      rw [← h.head, rget_rset_eq _ _ _ hhead, getD_append_eq]
    · have hkl : k < s.vals.length := Nat.lt_of_le_of_ne (Nat.le_of_lt_succ hk) hkn
      rw [h.head, rget_rset_ne _ _ _ _ (mod_ne_of_window hkl (Nat.lt_of_succ_le hw)), h.slots k hkl (Nat.le_of_succ_le hw),
        getD_append_lt _ _ _ hkl]
  · intro hz
    simp at hz

end Ggrs

namespace Ggrs

open InputQueue

/-- `P` is kept by every `add_input_by_frame` for the next frame of the stream. `add_input` and
`set_frame_delay` do nothing else to a queue (besides setting a field), so they keep `P` too:
`AddKeeps.addInput_spec`, `AddKeeps.setFrameDelay_spec` in `Proofs/Predict.lean`. -/
def AddKeeps (P : InputQueue → List Input → Prop) : Prop :=
  ∀ (q q' : InputQueue) (vals : List Input) (inp : PlayerInput) (n : Frame),
    P q vals → q.addInputByFrame inp n = .ok q' → n = (vals.length : Int) → P q' (vals ++ [inp.input])

theorem AddKeeps.and {P Q} (hP : AddKeeps P) (hQ : AddKeeps Q) : AddKeeps fun q vals => P q vals ∧ Q q vals :=
  fun q q' vals inp n h hadd hn => ⟨hP q q' vals inp n h.1 hadd hn, hQ q q' vals inp n h.2 hadd hn⟩

theorem AddKeeps.fillLoop {P} (hP : AddKeeps P) (toRep : PlayerInput) :
    ∀ (n : Nat) (q q' : InputQueue) (vals : List Input) (expected : Frame),
    P q vals → expected = (vals.length : Int) →
    fillLoop toRep n q expected = .ok q' → P q' (vals ++ List.replicate n toRep.input) := by
  intro n
  induction n with
  | zero =>
    intro q q' vals e h _ hf
    cases hf
    rw [List.replicate_zero, List.append_nil]
    exact h
  | succ k ih =>
    intro q q' vals e h he hf
    obtain ⟨q1, h1, hf⟩ := bind_ok hf
    have := ih q1 q' (vals ++ [toRep.input]) (e + 1) (hP q q1 vals toRep e h h1 he) (by simp [he]) hf
    rwa [List.append_assoc] at this

theorem AddKeeps.delayFillLoop {P} (hP : AddKeeps P) (li : PlayerInput) :
    ∀ (n : Nat) (q q' : InputQueue) (vals : List Input) (fills fills' : List PlayerInput),
    P q vals → q.lastAddedFrame = (vals.length : Int) - 1 →
    delayFillLoop li n q fills = .ok (q', fills') →
    P q' (vals ++ List.replicate n li.input) ∧ fills' = fills ++ QSpec.fillList vals.length li.input n := by
  intro n
  induction n with
  | zero =>
    intro q q' vals f f' h _ hf
    cases hf
    rw [List.replicate_zero, List.append_nil]
    exact ⟨h, (List.append_nil f).symm⟩
  | succ k ih =>
    intro q q' vals f f' h hla hf
    obtain ⟨q1, h1, hf⟩ := bind_ok hf
    have hn : q.lastAddedFrame + 1 = (vals.length : Int) := by rw [hla]; exact Int.sub_add_cancel _ _
    obtain ⟨_, _, _, _, rfl⟩ := addInputByFrame_eq_ok.mp h1
    obtain ⟨hp, hfl⟩ := ih _ q' (vals ++ [li.input]) _ f' (hP _ _ vals li _ h h1 hn) (by simp [hn]) hf
    rw [List.append_assoc] at hp
    refine ⟨hp, ?_⟩
    rw [hfl, hn, List.append_assoc, List.length_append, List.length_singleton]
    rfl

theorem refines_addKeeps (lu : Int) (d : Nat) : AddKeeps fun q vals => Refines q ⟨vals, lu, d⟩ :=
  fun q q' _ inp n h hadd _ => (refines_addByFrame q q' _ inp n h hadd).2

theorem refines_fillLoop (toRep : PlayerInput) (n : Nat) (q q' : InputQueue) (s : QSpec) (expected : Frame)
    (h : Refines q s) (he : expected = (s.vals.length : Int)) (hf : InputQueue.fillLoop toRep n q expected = .ok q') :
    Refines q' { s with vals := s.vals ++ List.replicate n toRep.input } :=
  (refines_addKeeps s.lastUser s.delay).fillLoop toRep n q q' s.vals expected h he hf

theorem refines_delayFillLoop (lastInput : PlayerInput) (n : Nat) (q q' : InputQueue) (s : QSpec)
    (fills fills' : List PlayerInput) (h : Refines q s)
    (hf : InputQueue.delayFillLoop lastInput n q fills = .ok (q', fills')) :
    Refines q' { s with vals := s.vals ++ List.replicate n lastInput.input } ∧
    fills' = fills ++ QSpec.fillList s.vals.length lastInput.input n :=
  (refines_addKeeps s.lastUser s.delay).delayFillLoop lastInput n q q' s.vals fills fills' h h.lastAdded hf

end Ggrs
