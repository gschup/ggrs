/-
L-replay: a game that executes request lists. If every request passes the frame-consistency check
`Chk`, the game's state is always the replay of its own timeline from the initial state, and every load
restores exactly the state of the loaded frame on the current timeline.
-/
import GgrsModel.Proofs.Timeline

namespace Ggrs

/-- The game as the user runs it. `cur` and `R` are the `TLState` of `Proofs/Timeline.lean`, which is all
the session invariants need of the game. -/
structure GS (G : Type) where
  cur : Int
  R : Nat → List (Input × InputStatus)
  g : G
  cellG : Nat → G
  tag : Nat → Int

def execG {G : Type} (step : G → List (Input × InputStatus) → G) (n : Nat) (x : GS G) : Request → GS G
  | .save f => { x with cellG := upd x.cellG (f.toNat % n) x.g, tag := upd x.tag (f.toNat % n) f }
  | .load f => { x with cur := f, g := x.cellG (f.toNat % n) }
  | .advance ins => { x with cur := x.cur + 1, R := upd x.R x.cur.toNat ins, g := step x.g ins }

def execGs {G : Type} (step : G → List (Input × InputStatus) → G) (n : Nat) (x : GS G) (rs : List Request) : GS G :=
  rs.foldl (execG step n) x

def replay {G : Type} (step : G → List (Input × InputStatus) → G) (g0 : G)
    (R : Nat → List (Input × InputStatus)) : Nat → G
  | 0 => g0
  | k + 1 => step (replay step g0 R k) (R k)

theorem replay_congr {G : Type} (step : G → List (Input × InputStatus) → G) (g0 : G)
    (R R' : Nat → List (Input × InputStatus)) : ∀ k, (∀ j, j < k → R' j = R j) →
    replay step g0 R' k = replay step g0 R k
  | 0, _ => rfl
  | k + 1, h => by
    simp only [replay]
    rw [replay_congr step g0 R R' k (fun j hj => h j (by omega)), h k (by omega)]

theorem replay_upd {G : Type} (step : G → List (Input × InputStatus) → G) (g0 : G)
    (R : Nat → List (Input × InputStatus)) (c : Nat) (ins : List (Input × InputStatus)) (k : Nat) (hk : k ≤ c) :
    replay step g0 (upd R c ins) k = replay step g0 R k :=
  replay_congr step g0 R _ k fun j hj => upd_ne R c j ins (by omega)

theorem replay_step {G : Type} (step : G → List (Input × InputStatus) → G) (g0 : G)
    (R : Nat → List (Input × InputStatus)) (c : Nat) (ins : List (Input × InputStatus)) :
    replay step g0 (upd R c ins) (c + 1) = step (replay step g0 R c) ins := by
  show step (replay step g0 (upd R c ins) c) (upd R c ins c) = _
  rw [replay_upd step g0 R c ins c (Nat.le_refl _), upd_self]

/-- State of the frame-consistency check; `valid`: the cell still holds a state of the current timeline. -/
structure CS where
  cur : Int
  tag : Nat → Int
  valid : Nat → Prop

/-- The check of one request (C02's clauses). -/
inductive Chk (n : Nat) : CS → Request → CS → Prop
  | save (c : CS) (f : Frame) : f = c.cur → 0 ≤ f →
      Chk n c (.save f) { c with tag := upd c.tag (f.toNat % n) f, valid := fun i => i = f.toNat % n ∨ c.valid i }
  | load (c : CS) (f : Frame) : 0 ≤ f → f < c.cur → c.tag (f.toNat % n) = f → c.valid (f.toNat % n) →
      Chk n c (.load f) { c with cur := f }
  | advance (c : CS) (ins : List (Input × InputStatus)) : 0 ≤ c.cur →
      Chk n c (.advance ins) { c with cur := c.cur + 1, valid := fun i => c.valid i ∧ c.tag i ≤ c.cur }

inductive ChkList (n : Nat) : CS → List Request → CS → Prop
  | nil (c : CS) : ChkList n c [] c
  | cons (c c1 c2 : CS) (r : Request) (rs : List Request) : Chk n c r c1 → ChkList n c1 rs c2 → ChkList n c (r :: rs) c2

abbrev CS.saved (n : Nat) (c : CS) (f : Int) : CS :=
  { c with tag := upd c.tag (f.toNat % n) f, valid := fun i => i = f.toNat % n ∨ c.valid i }

abbrev CS.advanced (c : CS) : CS :=
  { c with cur := c.cur + 1, valid := fun i => c.valid i ∧ c.tag i ≤ c.cur }

theorem ChkList_append (n : Nat) (c c1 c2 : CS) (a b : List Request) (h1 : ChkList n c a c1) (h2 : ChkList n c1 b c2) :
    ChkList n c (a ++ b) c2 := by
  induction h1 with
  | nil c => exact h2
  | cons c c1 c2' r rs hr _ ih => exact ChkList.cons c c1 _ r _ hr (ih h2)

structure GInv {G : Type} (step : G → List (Input × InputStatus) → G) (g0 : G) (n : Nat) (x : GS G) (c : CS) : Prop where
  cur : x.cur = c.cur
  nonneg : 0 ≤ x.cur
  tag : ∀ i, i < n → x.tag i = c.tag i
  state : x.g = replay step g0 x.R x.cur.toNat
  cells : ∀ i, i < n → c.valid i → 0 ≤ c.tag i ∧ x.cellG i = replay step g0 x.R (c.tag i).toNat

theorem GInv_exec {G : Type} (step : G → List (Input × InputStatus) → G) (g0 : G) (n : Nat) (hn : 0 < n)
    (x : GS G) (c c' : CS) (r : Request) (h : GInv step g0 n x c) (hc : Chk n c r c') :
    GInv step g0 n (execG step n x r) c' := by
  cases hc with
  | save f hf h0 =>
    refine ⟨h.cur, h.nonneg, ?_, h.state, ?_⟩
    · intro i hi
      show upd x.tag (f.toNat % n) f i = upd c.tag (f.toNat % n) f i
      by_cases hie : i = f.toNat % n
      · rw [hie, upd_self, upd_self]
      · rw [upd_ne _ _ _ _ hie, upd_ne _ _ _ _ hie]; exact h.tag i hi
    · intro i hi hv
      show 0 ≤ upd c.tag (f.toNat % n) f i ∧ upd x.cellG (f.toNat % n) x.g i = replay step g0 x.R (upd c.tag (f.toNat % n) f i).toNat
      by_cases hie : i = f.toNat % n
      · rw [hie, upd_self, upd_self]
        exact ⟨h0, by rw [h.state, hf, h.cur]⟩
      · rw [upd_ne _ _ _ _ hie, upd_ne _ _ _ _ hie]
        exact h.cells i hi (hv.resolve_left hie)
  | load f h0 hlt htag hval =>
    obtain ⟨_, hcell⟩ := h.cells _ (Nat.mod_lt _ hn) hval
    refine ⟨rfl, h0, h.tag, ?_, h.cells⟩
    show x.cellG (f.toNat % n) = replay step g0 x.R f.toNat
    rw [hcell, htag]
  | advance ins h0 =>
    refine ⟨by show x.cur + 1 = c.cur + 1; rw [h.cur], by show 0 ≤ x.cur + 1; have := h.nonneg; omega, h.tag, ?_, ?_⟩
    · show step x.g ins = replay step g0 (upd x.R x.cur.toNat ins) (x.cur + 1).toNat
      have hn1 : (x.cur + 1).toNat = x.cur.toNat + 1 := by have := h.nonneg; omega
      rw [hn1, replay_step, h.state]
    · intro i hi hv
      obtain ⟨hv1, hv2⟩ := hv
      obtain ⟨a, b⟩ := h.cells i hi hv1
      refine ⟨a, ?_⟩
      show x.cellG i = replay step g0 (upd x.R x.cur.toNat ins) (c.tag i).toNat
      rw [replay_upd step g0 x.R _ ins _ (by rw [h.cur]; omega)]
      exact b

/-- L-replay: a checked request list keeps the game on the replay of its own timeline. -/
theorem GInv_execs {G : Type} (step : G → List (Input × InputStatus) → G) (g0 : G) (n : Nat) (hn : 0 < n)
    (x : GS G) (c c' : CS) (rs : List Request) (h : GInv step g0 n x c) (hc : ChkList n c rs c') :
    GInv step g0 n (execGs step n x rs) c' := by
  induction hc generalizing x with
  | nil c => exact h
  | cons c c1 c2 r rs hr _ ih =>
    simp only [execGs, List.foldl_cons]
    exact ih (execG step n x r) (GInv_exec step g0 n hn x c c1 r h hr)

end Ggrs
