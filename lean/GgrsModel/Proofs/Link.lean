/-
L-link: the sender side of the input stream, and the two endpoints joined by an arbitrary network.
`SInv a S k`: the sending endpoint `a` has submitted the first `k` inputs of `S`, its `pending_output` is a
run of consecutive stream frames ending with the newest one, and `last_acked_input` is the stream input
right before that run (zeros before the first one). Under it `send_pending_output` queues exactly the
packet shape `L_stream_packet` expects.
-/
import GgrsModel.Proofs.RecvStream3

namespace Ggrs
open Codec (Bytes)

/-- `n` consecutive frames of the stream starting at `a`, as `pending_output` entries. -/
def framesFrom (S : SStream) : Int → Nat → List InputBytes
  | _, 0 => []
  | a, n + 1 => ⟨a, S.item a⟩ :: framesFrom S (a + 1) n

theorem framesFrom_length (S : SStream) : ∀ (n : Nat) (a : Int), (framesFrom S a n).length = n := by
  intro n
  induction n with
  | zero => intro a; rfl
  | succ n ih => intro a; simp [framesFrom, ih]

theorem framesFrom_snoc (S : SStream) : ∀ (n : Nat) (a : Int),
    framesFrom S a n ++ [⟨a + (n : Int), S.item (a + (n : Int))⟩] = framesFrom S a (n + 1) := by
  intro n
  induction n with
  | zero => intro a; simp [framesFrom]
  | succ n ih =>
    intro a
    have h2 : a + ((n + 1 : Nat) : Int) = a + 1 + (n : Int) := by omega
    simp only [framesFrom, List.cons_append, h2, ih (a + 1)]

theorem framesFrom_bytes (S : SStream) : ∀ (n : Nat) (a : Int), (S.f0 : Int) ≤ a →
    a + (n : Int) - 1 ≤ S.last → (framesFrom S a n).map (·.bytes) = S.slice a n := by
  intro n
  induction n with
  | zero => intro a _ _; simp [framesFrom, SStream.slice]
  | succ n ih =>
    intro a hlo hhi
    rw [slice_succ S a n hlo (by omega)]
    simp only [framesFrom, List.map_cons, List.cons.injEq, true_and]
    exact ih (a + 1) (by omega) (by omega)

/-- The first frame the sender has not yet seen acknowledged. -/
def ackedNext (e : Endpoint) (S : SStream) : Int :=
  if e.lastAckedInput.frame = NULL_FRAME then S.f0 else e.lastAckedInput.frame + 1

structure SInv (e : Endpoint) (S : SStream) (k : Nat) : Prop where
  kle : k ≤ S.items.length
  lo : (S.f0 : Int) ≤ ackedNext e S
  hi : ackedNext e S ≤ (S.f0 : Int) + k
  ref : e.lastAckedInput.bytes = S.refAt (ackedNext e S)
  pend : e.pendingOutput = framesFrom S (ackedNext e S) ((S.f0 : Int) + k - ackedNext e S).toNat
  ackedLo : e.lastAckedInput.frame = NULL_FRAME ∨ (S.f0 : Int) ≤ e.lastAckedInput.frame

theorem pop_go (S : SStream) (ack : Int) : ∀ (n : Nat) (a : Int) (la : InputBytes),
    ∃ a', a' = max a (min (ack + 1) (a + (n : Int))) ∧
      Endpoint.popPendingOutput.go ack (framesFrom S a n) la =
        (framesFrom S a' (a + (n : Int) - a').toNat, if a' = a then la else ⟨a' - 1, S.item (a' - 1)⟩) := by
  intro n
  induction n with
  | zero =>
    intro a la
    refine ⟨a, by omega, ?_⟩
    rw [if_pos rfl, show (a + ((0 : Nat) : Int) - a).toNat = 0 by omega]
    rfl
  | succ n ih =>
    intro a la
    simp only [framesFrom]
    unfold Endpoint.popPendingOutput.go
    by_cases hx : a ≤ ack
    · obtain ⟨a', ha', hgo⟩ := ih (a + 1) ⟨a, S.item a⟩
      have hn : a + ((n + 1 : Nat) : Int) = a + 1 + (n : Int) := by omega
      -- `a` goes, so both windows start at the minimum
      have hm : a + 1 ≤ min (ack + 1) (a + 1 + (n : Int)) := Int.le_min.mpr ⟨by omega, by omega⟩
      rw [Int.max_eq_right hm] at ha'
      rw [hn, Int.max_eq_right (Int.le_trans (Int.le_of_lt (Int.lt_succ a)) hm)]
      have hne : a' ≠ a := by omega
      refine ⟨a', ha', ?_⟩
      simp only [hx, if_true, hgo, hne, if_false, Prod.mk.injEq, true_and]
      split
      · next h1 => rw [h1, Int.add_sub_cancel]
      · rfl
    · refine ⟨a, by omega, ?_⟩
      rw [if_pos rfl, show (a + ((n + 1 : Nat) : Int) - a).toNat = n + 1 by omega]
      simp only [hx, if_false, framesFrom]

theorem SInv_advance {e e' : Endpoint} {S : SStream} {k : Nat} (h : SInv e S k) (a' : Int)
    (hge : ackedNext e S ≤ a') (hle : a' ≤ (S.f0 : Int) + k)
    (hpo : e'.pendingOutput = framesFrom S a' ((S.f0 : Int) + k - a').toNat)
    (hla : e'.lastAckedInput = if a' = ackedNext e S then e.lastAckedInput else ⟨a' - 1, S.item (a' - 1)⟩) :
    ackedNext e' S = a' ∧ SInv e' S k := by
  have hlo := h.lo
  by_cases ha : a' = ackedNext e S
  · rw [if_pos ha] at hla
    have hn : ackedNext e' S = a' := by unfold ackedNext; rw [hla]; exact ha.symm
    exact ⟨hn, h.kle, hn ▸ ha ▸ hlo, hn ▸ hle, by rw [hn, hla, ha]; exact h.ref, hn ▸ hpo, hla ▸ h.ackedLo⟩
  · rw [if_neg ha] at hla
    have hn : ackedNext e' S = a' := by
      unfold ackedNext
      rw [hla]
      show (if a' - 1 = -1 then (S.f0 : Int) else a' - 1 + 1) = a'
      rw [if_neg (by omega)]
      omega
    refine ⟨hn, h.kle, by omega, hn ▸ hle, ?_, hn ▸ hpo, Or.inr (by rw [hla]; show _ ≤ a' - 1; omega)⟩
    rw [hn, hla, SStream.refAt, if_neg (by omega)]

theorem SInv_pop (e : Endpoint) (S : SStream) (k : Nat) (ack : Int) (h : SInv e S k) :
    ackedNext (e.popPendingOutput ack) S = max (ackedNext e S) (min (ack + 1) ((S.f0 : Int) + k)) ∧
    SInv (e.popPendingOutput ack) S k := by
  have hsum := add_toNat_sub h.hi
  obtain ⟨a', ha', hgo⟩ := pop_go S ack ((S.f0 : Int) + k - ackedNext e S).toNat (ackedNext e S) e.lastAckedInput
  rw [hsum] at ha' hgo
  have hp : (e.popPendingOutput ack).pendingOutput = framesFrom S a' ((S.f0 : Int) + k - a').toNat ∧
      (e.popPendingOutput ack).lastAckedInput =
        if a' = ackedNext e S then e.lastAckedInput else ⟨a' - 1, S.item (a' - 1)⟩ := by
    unfold Endpoint.popPendingOutput
    simp only
    rw [h.pend, hgo]
    exact ⟨rfl, rfl⟩
  rw [← ha']
  exact SInv_advance h a' (ha' ▸ Int.le_max_left _ _)
    (ha' ▸ Int.max_le.mpr ⟨h.hi, Int.min_le_right _ _⟩) hp.1 hp.2

theorem SInv_congr {e e' : Endpoint} {S : SStream} {k : Nat} (h : SInv e S k)
    (hp : e'.pendingOutput = e.pendingOutput) (hl : e'.lastAckedInput = e.lastAckedInput) : SInv e' S k := by
  have hn : ackedNext e' S = ackedNext e S := by unfold ackedNext; rw [hl]
  exact ⟨h.kle, hn ▸ h.lo, hn ▸ h.hi, by rw [hn, hl]; exact h.ref, by rw [hn, hp]; exact h.pend, hl ▸ h.ackedLo⟩

theorem SInv.pend_nil {e : Endpoint} {S : SStream} {k : Nat} (h : SInv e S k)
    (hn : ackedNext e S = (S.f0 : Int) + k) : e.pendingOutput = [] := by
  rw [h.pend, hn, Int.sub_self]
  rfl

theorem SInv.pop_all {e : Endpoint} {S : SStream} {k : Nat} (h : SInv e S k) :
    (e.popPendingOutput ((S.f0 : Int) + k - 1)).pendingOutput = [] := by
  obtain ⟨hn, hinv⟩ := SInv_pop e S k _ h
  have := h.hi
  exact hinv.pend_nil (by omega)

theorem SInv_send {e e' : Endpoint} {S : SStream} {k : Nat} {now : Nat} {cs : List ConnStatus}
    (h : SInv e S k) (hs : e.sendPendingOutput now cs = .ok e') :
    (ackedNext e S = (S.f0 : Int) + k ∧ e' = e) ∨
    (ackedNext e S < (S.f0 : Int) + k ∧
      e' = e.queueMessage now (.input cs (e.state == .disconnected) (ackedNext e S) e.lastRecvFrame
        (Codec.encode (S.refAt (ackedNext e S))
          (S.slice (ackedNext e S) ((S.f0 : Int) + k - ackedNext e S).toNat)))) := by
  have hlo := h.lo
  have hhi := h.hi
  have hkle := h.kle
  have hlen := congrArg List.length h.pend
  rw [framesFrom_length] at hlen
  rcases Endpoint.sendPendingOutput_ok hs with ⟨hp, he⟩ | ⟨front, rest, hp, he⟩
  · rw [hp] at hlen
    exact Or.inl ⟨by simp only [List.length_nil] at hlen; omega, he⟩
  · rw [hp] at hlen
    refine Or.inr ⟨by simp only [List.length_cons] at hlen; omega, ?_⟩
    have hfront : front.frame = ackedNext e S := by
      have hpend := h.pend
      rw [hp, ← hlen] at hpend
      exact congrArg InputBytes.frame (List.cons.inj hpend).1
    rw [he, hfront, h.ref, h.pend, framesFrom_bytes S _ _ hlo (by unfold SStream.last; omega)]

theorem SInv_append (e : Endpoint) (S : SStream) (k : Nat) (h : SInv e S k) (hk : k < S.items.length) :
    SInv { e with pendingOutput := e.pendingOutput ++ [⟨(S.f0 : Int) + k, S.item ((S.f0 : Int) + k)⟩] } S (k + 1) := by
  have hhi := h.hi
  refine ⟨hk, h.lo, Int.le_trans hhi (by omega), h.ref, ?_, h.ackedLo⟩
  show e.pendingOutput ++ _ = framesFrom S (ackedNext e S) ((S.f0 : Int) + ((k + 1 : Nat) : Int) - ackedNext e S).toNat
  have h1 : (S.f0 : Int) + ((k + 1 : Nat) : Int) = (S.f0 : Int) + k + 1 := by omega
  rw [h.pend, h1, toNat_sub_succ (Int.lt_add_one_iff.mpr hhi), Int.add_sub_add_right,
    ← framesFrom_snoc, add_toNat_sub hhi]

theorem sendInput_split (e e' : Endpoint) (now : Nat) (inputs : List (Nat × PlayerInput)) (cs : List ConnStatus)
    (data : InputBytes) (hrun : e.state = .running) (hfi : Endpoint.fromInputs e.numPlayers inputs = .ok data)
    (hs : e.sendInput now inputs cs = .ok e') :
    ∃ e1 : Endpoint, e1.pendingOutput = e.pendingOutput ++ [data] ∧ e1.lastAckedInput = e.lastAckedInput ∧
      e1.sendQueue = e.sendQueue ∧ e1.sendPendingOutput now cs = .ok e' := by
  unfold Endpoint.sendInput at hs
  have h1 : (e.state != .running) = false := by simp [hrun]
  simp only [h1, Bool.false_eq_true, if_false, hfi] at hs
  simp only [bind, Except.bind] at hs
  split at hs
  · refine ⟨_, ?_, ?_, ?_, hs⟩ <;> rfl
  · refine ⟨_, ?_, ?_, ?_, hs⟩ <;> rfl

/-- One direction of a connection: `a` sends the stream, `b` receives it; `k` inputs submitted.
Messages are never removed from the send queues in this system, so "deliver any message that was
ever queued, at any time, any number of times" covers loss, duplication and reordering. -/
structure Link where
  a : Endpoint
  b : Endpoint
  k : Nat

inductive LStep (S : SStream) : Link → Link → Prop
  | submit (st : Link) (now : Nat) (inputs : List (Nat × PlayerInput)) (cs : List ConnStatus) (a' : Endpoint) :
      st.a.state = .running → st.a.pendingOutput.length ≤ PENDING_OUTPUT_SIZE → st.k < S.items.length →
      Endpoint.fromInputs st.a.numPlayers inputs = .ok ⟨(S.f0 : Int) + st.k, S.item ((S.f0 : Int) + st.k)⟩ →
      st.a.sendInput now inputs cs = .ok a' → LStep S st { st with a := a', k := st.k + 1 }
  | resend (st : Link) (now : Nat) (cs : List ConnStatus) (a' : Endpoint) :
      st.a.sendPendingOutput now cs = .ok a' → LStep S st { st with a := a' }
  | packet (st : Link) (now : Nat) (m : Msg) (cs : List ConnStatus) (d : Bool) (start ack : Frame) (bytes : Bytes) :
      m ∈ st.a.sendQueue → m.body = .input cs d start ack bytes →
      LStep S st { st with b := st.b.decodeInputs now start bytes }
  | ack (st : Link) (m : Msg) (x : Frame) :
      m ∈ st.b.sendQueue → m.body = .inputAck x → LStep S st { st with a := st.a.popPendingOutput x }
  /-- an acknowledgement piggy-backed on the receiver's own Input messages: never more than it has -/
  | piggyAck (st : Link) (x : Frame) :
      x ≤ st.b.lastRecvFrame → LStep S st { st with a := st.a.popPendingOutput x }

inductive LStar (S : SStream) : Link → Link → Prop
  | refl (st : Link) : LStar S st st
  | step (st st' st'' : Link) : LStar S st st' → LStep S st' st'' → LStar S st st''

structure LInv (S : SStream) (st : Link) : Prop where
  sinv : SInv st.a S st.k
  rinv : RInv st.b S
  /-- last conjunct: a window that has moved proves the receiver got something -/
  packets : ∀ m ∈ st.a.sendQueue, ∀ cs d start ack bytes, m.body = .input cs d start ack bytes →
    ∃ n, PacketOk S (start, n) ∧ bytes = Codec.encode (S.refAt start) (S.slice start n) ∧
      start + (n : Int) ≤ (S.f0 : Int) + st.k ∧
      (start ≠ S.f0 → st.b.lastRecvFrame ≠ NULL_FRAME)
  acks : ∀ m ∈ st.b.sendQueue, ∀ x, m.body = .inputAck x → x ≤ st.b.lastRecvFrame
  window : ackedNext st.a S ≤ nextFrame st.b S
  causal : st.b.lastRecvFrame ≤ (S.f0 : Int) + st.k - 1
  pendLen : ((S.f0 : Int) + st.k - ackedNext st.a S).toNat ≤ PENDING_OUTPUT_SIZE + 1
  events : st.b.eventQueue = evsRange S st.b.handles S.f0 (nextFrame st.b S - S.f0).toNat

theorem slice_cap (S : SStream) (hsize : S.width ≤ 65535) (hw : ∀ b ∈ S.items, b.length = S.width)
    (start : Int) (n : Nat) (hn : n ≤ PENDING_OUTPUT_SIZE + 1) :
    Codec.encodedSize (S.slice start n) ≤ MAX_DECODED_BYTES :=
  Codec.encodedSize_cap _ (fun y hy => hw y (slice_mem S start n y hy) ▸ hsize)
    (Nat.le_trans (List.length_take_le _ _) hn)

theorem nextFrame_null {S : SStream} {e : Endpoint} (h0 : nextFrame e S ≠ S.f0) :
    e.lastRecvFrame ≠ NULL_FRAME :=
  fun hc => h0 (if_pos hc)

theorem LInv_sender (S : SStream) (hsize : S.width ≤ 65535) (st : Link) (a' : Endpoint) (k' : Nat) (now : Nat)
    (cs : List ConnStatus) (a1 : Endpoint)
    (h : LInv S st) (hk' : st.k ≤ k') (h1 : SInv a1 S k') (hq : a1.sendQueue = st.a.sendQueue)
    (hn : ackedNext a1 S = ackedNext st.a S)
    (hlen : ((S.f0 : Int) + k' - ackedNext a1 S).toNat ≤ PENDING_OUTPUT_SIZE + 1)
    (hs : a1.sendPendingOutput now cs = .ok a') :
    LInv S { st with a := a', k := k' } := by
  have hold : ∀ m ∈ a1.sendQueue, ∀ cs d start ack bytes, m.body = .input cs d start ack bytes →
      ∃ n, PacketOk S (start, n) ∧ bytes = Codec.encode (S.refAt start) (S.slice start n) ∧
        start + (n : Int) ≤ (S.f0 : Int) + k' ∧ (start ≠ S.f0 → st.b.lastRecvFrame ≠ NULL_FRAME) := by
    intro m hm cs d start ack bytes hb
    obtain ⟨n, h1, h2, h3, h4⟩ := h.packets m (hq ▸ hm) cs d start ack bytes hb
    exact ⟨n, h1, h2, by omega, h4⟩
  have hcausal : st.b.lastRecvFrame ≤ (S.f0 : Int) + k' - 1 := by have := h.causal; omega
  have hwin : ackedNext a1 S ≤ nextFrame st.b S := hn ▸ h.window
  rcases SInv_send h1 hs with ⟨_, rfl⟩ | ⟨hlt, rfl⟩
  · exact ⟨h1, h.rinv, hold, h.acks, hwin, hcausal, hlen, h.events⟩
  · refine ⟨SInv_congr h1 rfl rfl, h.rinv, ?_, h.acks, hwin, hcausal, hlen, h.events⟩
    intro m hm cs' d start ack bytes hb
    rcases List.mem_append.mp (show m ∈ a1.sendQueue ++ [_] from hm) with ho | hnew
    · exact hold m ho cs' d start ack bytes hb
    · rw [List.mem_singleton.mp hnew] at hb
      obtain ⟨_, _, hst, _, hby⟩ := MsgBody.input.inj hb
      subst hst hby
      have hlo := h1.lo
      have hsum := add_toNat_sub h1.hi
      refine ⟨((S.f0 : Int) + k' - ackedNext a1 S).toNat, ⟨?_, hlo, ?_, slice_cap S hsize h.rinv.itemWidth _ _ hlen⟩,
        rfl, Int.le_of_eq hsum, fun hne => nextFrame_null (S := S) ?_⟩
      · show _ ≥ 1
        omega
      · show ackedNext a1 S + _ - 1 ≤ S.last
        have hkle := h1.kle
        rw [hsum, SStream.last]
        omega
      · show nextFrame st.b S ≠ S.f0
        omega

theorem LInv_ack (S : SStream) (st : Link) (x : Frame) (h : LInv S st) (hle : x ≤ st.b.lastRecvFrame) :
    LInv S { st with a := st.a.popPendingOutput x } := by
  obtain ⟨hn, hinv'⟩ := SInv_pop st.a S st.k x h.sinv
  have hge : ackedNext st.a S ≤ ackedNext (st.a.popPendingOutput x) S := hn ▸ Int.le_max_left _ _
  refine ⟨hinv', h.rinv, h.packets, h.acks, ?_, h.causal, ?_, h.events⟩
  · show ackedNext (st.a.popPendingOutput x) S ≤ nextFrame st.b S
    rw [hn]
    exact Int.max_le.mpr ⟨h.window,
      Int.le_trans (Int.min_le_left _ _) (Int.lt_of_le_of_lt hle (last_lt_nextFrame h.rinv))⟩
  · exact Nat.le_trans (Int.toNat_le_toNat (Int.sub_le_sub_left hge _)) h.pendLen

theorem LInv_step (S : SStream) (hsize : S.width ≤ 65535) (st st' : Link) (h : LInv S st)
    (hstep : LStep S st st') : LInv S st' := by
  cases hstep with
  | submit now inputs cs a' hrun hlen hk hfi hs =>
    obtain ⟨e1, hp1, hl1, hq1, hs1⟩ := sendInput_split st.a a' now inputs cs _ hrun hfi hs
    have h1 : SInv e1 S (st.k + 1) := SInv_congr (SInv_append st.a S st.k h.sinv hk) hp1 hl1
    have hn : ackedNext e1 S = ackedNext st.a S := by unfold ackedNext; rw [hl1]
    have hhi := h.sinv.hi
    rw [h.sinv.pend, framesFrom_length] at hlen
    exact LInv_sender S hsize st a' (st.k + 1) now cs e1 h (Nat.le_succ _) h1 hq1 hn (by omega) hs1
  | resend now cs a' hs =>
    exact LInv_sender S hsize st a' st.k now cs st.a h (Nat.le_refl _) h.sinv rfl rfl h.pendLen hs
  | packet now m cs d start ack bytes hm hb =>
    obtain ⟨n, hok, hby, hsub, hfirst⟩ := h.packets m hm cs d start ack bytes hb
    subst hby
    obtain ⟨hinv', hh', hne', hge', hev', hsq', hle', _⟩ := L_stream_packet st.b S now start n h.rinv hok.pos hok.lo hok.hi
      (fun h0 => Classical.byContradiction fun hc => hfirst hc h0) hsize hok.cap
    generalize st.b.decodeInputs now start (Codec.encode (S.refAt start) (S.slice start n)) = b' at *
    have hmono := nextFrame_mono h.rinv hinv' hge'
    refine ⟨h.sinv, hinv', ?_, ?_, Int.le_trans h.window hmono, ?_, h.pendLen, ?_⟩
    · intro m2 hm2 cs2 d2 start2 ack2 bytes2 hb2
      obtain ⟨n2, hok2, hby2, hsub2, hf2⟩ := h.packets m2 hm2 cs2 d2 start2 ack2 bytes2 hb2
      exact ⟨n2, hok2, hby2, hsub2, fun hne => h.rinv.seen_mono hge' (hf2 hne)⟩
    · intro m2 hm2 x hx
      rcases List.mem_append.mp (hsq' ▸ hm2) with hold | hnew
      · exact Int.le_trans (h.acks m2 hold x hx) hge'
      · cases List.mem_singleton.mp hnew
        cases hx
        exact Int.le_refl _
    · exact Int.le_trans hle' (Int.max_le.mpr ⟨h.causal, Int.sub_le_sub_right hsub 1⟩)
    · show b'.eventQueue = evsRange S b'.handles S.f0 (nextFrame b' S - S.f0).toNat
      rw [hev', hh', h.events, evsRange_split S _ (nextFrame_lo h.rinv) hmono]
  | ack m x hm hx => exact LInv_ack S st x h (h.acks m hm x hx)
  | piggyAck x hle => exact LInv_ack S st x h hle

/-- L-link: for every schedule of `LStep`s the link invariant holds — in particular (`LInv.events`) what the
receiver has handed to its session is exactly the sender's stream from its first frame up to the receiver's
newest frame; the receiver never runs ahead of the sender (`causal`) and the sender's window never ahead of
the receiver (`window`). -/
theorem L_link (S : SStream) (hsize : S.width ≤ 65535) (st st' : Link) (h : LInv S st)
    (hrun : LStar S st st') : LInv S st' := by
  induction hrun with
  | refl => exact h
  | step st' st'' _ hstep ih => exact LInv_step S hsize st' st'' ih hstep

theorem LInv.pending_le {S : SStream} {st : Link} (h : LInv S st) :
    st.a.pendingOutput.length ≤ PENDING_OUTPUT_SIZE + 1 := by
  rw [h.sinv.pend, framesFrom_length]
  exact h.pendLen

theorem LInv.resync {S : SStream} {st : Link} (h : LInv S st) :
    max (ackedNext st.a S) (min (st.b.lastRecvFrame + 1) ((S.f0 : Int) + st.k)) = nextFrame st.b S := by
  have hw := h.window
  have hc := h.causal
  have hlo := h.sinv.lo
  have hn := nextFrame_cases h.rinv
  omega

/-- L-link, recovery: from EVERY state the link can get into one clean exchange resynchronises it. Once the
receiver's current acknowledgement reaches the sender, the sender's next (re)transmission, if anything is
still unacknowledged, starts exactly at the frame the receiver is waiting for, brings the receiver to the
newest submitted frame, and the acknowledgement of that empties the sender's window. -/
theorem L_link_recovers (S : SStream) (hsize : S.width ≤ 65535) (st : Link) (h : LInv S st)
    (now now' : Nat) (cs : List ConnStatus) (a2 : Endpoint)
    (hs : (st.a.popPendingOutput st.b.lastRecvFrame).sendPendingOutput now cs = .ok a2) :
    (a2.sendQueue = st.a.sendQueue ∧ nextFrame st.b S = (S.f0 : Int) + st.k ∧ a2.pendingOutput = []) ∨
    (∃ m cs' d start ack bytes, a2.sendQueue = st.a.sendQueue ++ [m] ∧ m.body = .input cs' d start ack bytes ∧
      start = nextFrame st.b S ∧
      (st.b.decodeInputs now' start bytes).lastRecvFrame = (S.f0 : Int) + st.k - 1 ∧
      (a2.popPendingOutput (st.b.decodeInputs now' start bytes).lastRecvFrame).pendingOutput = []) := by
  obtain ⟨hn1, hinv1⟩ := SInv_pop st.a S st.k st.b.lastRecvFrame h.sinv
  have hstart : ackedNext (st.a.popPendingOutput st.b.lastRecvFrame) S = nextFrame st.b S := hn1.trans h.resync
  rcases SInv_send hinv1 hs with ⟨hfull, rfl⟩ | ⟨hlt, rfl⟩
  · exact Or.inl ⟨rfl, hstart.symm.trans hfull, hinv1.pend_nil hfull⟩
  · refine Or.inr ⟨_, cs, _, _, _, _, rfl, rfl, hstart, ?_⟩
    rw [hstart] at hlt ⊢
    -- the packet starts at the frame waited for, so the receiver takes all of it
    have hkle := h.sinv.kle
    have hlen : ((S.f0 : Int) + st.k - nextFrame st.b S).toNat ≤ PENDING_OUTPUT_SIZE + 1 :=
      Nat.le_trans (Int.toNat_le_toNat (Int.sub_le_sub_left h.window _)) h.pendLen
    obtain ⟨_, _, _, _, _, _, _, heq, _⟩ := L_stream_packet st.b S now' (nextFrame st.b S)
      ((S.f0 : Int) + st.k - nextFrame st.b S).toNat h.rinv (by omega) (nextFrame_lo h.rinv)
      (by unfold SStream.last; omega) (fun h0 => if_pos h0) hsize (slice_cap S hsize h.rinv.itemWidth _ _ hlen)
    rw [heq rfl, add_toNat_sub (Int.le_of_lt hlt)]
    exact ⟨rfl, (SInv_congr hinv1 rfl rfl).pop_all⟩

/-- Non-vacuity of `L_link`: two endpoints right after the handshake. -/
theorem LInv_init (S : SStream) (a b : Endpoint)
    (hpend : a.pendingOutput = []) (hacked : a.lastAckedInput = ⟨NULL_FRAME, SStream.zerosB S.width⟩)
    (hnoin : ∀ m ∈ a.sendQueue, ∀ cs d start ack bytes, m.body ≠ .input cs d start ack bytes)
    (hnoack : ∀ m ∈ b.sendQueue, ∀ x, m.body ≠ .inputAck x)
    (hb : RInv b S) (hfresh : b.lastRecvFrame = NULL_FRAME) (hev : b.eventQueue = []) :
    LInv S ⟨a, b, 0⟩ := by
  have hnull : NULL_FRAME = (-1 : Int) := rfl
  have hn : ackedNext a S = S.f0 := by unfold ackedNext; rw [hacked]; simp
  have hnb : nextFrame b S = S.f0 := by unfold nextFrame; simp [hfresh]
  refine ⟨⟨Nat.zero_le _, by rw [hn]; exact Int.le_refl _, by rw [hn]; simp, ?_, ?_, Or.inl (by rw [hacked])⟩, hb,
    fun m hm cs d start ack bytes hbody => absurd hbody (hnoin m hm cs d start ack bytes),
    fun m hm x hbody => absurd hbody (hnoack m hm x), by show ackedNext a S ≤ nextFrame b S; rw [hn, hnb]; exact Int.le_refl _,
    by show b.lastRecvFrame ≤ _; rw [hfresh, hnull]; simp; omega,
    by show ((S.f0 : Int) + (0 : Nat) - ackedNext a S).toNat ≤ _; rw [hn]; simp, ?_⟩
  · rw [hn, hacked]; simp [SStream.refAt]
  · show a.pendingOutput = framesFrom S (ackedNext a S) ((S.f0 : Int) + (0 : Nat) - ackedNext a S).toNat
    rw [hn, hpend]; simp [framesFrom]
  · show b.eventQueue = evsRange S b.handles S.f0 (nextFrame b S - S.f0).toNat
    rw [hnb, hev]; simp [evsRange]

end Ggrs
