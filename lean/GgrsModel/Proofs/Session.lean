/-
L-session: the session invariant `SessInv` is kept by every step of `SStep` — the arrival of a remote
input, `add_local_input`, `advance_frame` in rollback mode with the game executing the requests, the
game's cell writes — for sessions in which no player is marked disconnected.
-/
import GgrsModel.Proofs.Timeline
import GgrsModel.Proofs.Frame

namespace Ggrs
open InputQueue

theorem mapM_ok {α β} [Inhabited α] [Inhabited β] (f : α → M β) : ∀ (l : List α) (l' : List β),
    l.mapM f = .ok l' → l'.length = l.length ∧ ∀ p, p < l.length → f (rget l p) = .ok (rget l' p) := by
  intro l
  induction l with
  | nil =>
    intro l' h
    rw [List.mapM_nil] at h
    obtain rfl := pure_ok h
    exact ⟨rfl, fun p hp => nomatch hp⟩
  | cons a rest ih =>
    intro l' h
    rw [List.mapM_cons] at h
    obtain ⟨b, hb, h⟩ := bind_ok h
    obtain ⟨bs, hbs, h⟩ := bind_ok h
    obtain rfl := pure_ok h
    obtain ⟨hl, hp⟩ := ih bs hbs
    refine ⟨congrArg (· + 1) hl, fun p hpl => ?_⟩
    cases p with
    | zero => exact hb
    | succ p => exact hp p (Nat.lt_of_succ_lt_succ hpl)

/-- The session invariant. `reqs` are the requests issued so far in the current call, `t0` the
game's timeline when the call began. -/
structure SessInv (s : P2P) (gh : Ghost) (t0 : TLState) (reqs : List Request) : Prop where
  tinv : TInv s.pred s.sync s.localConnectStatus gh t0 reqs
  asked : AllAsked s.sync.queues s.sync.currentFrame
  /-- the connection status never claims more than the queue holds -/
  status : ∀ p, p < s.sync.queues.length →
    (rget s.localConnectStatus p).lastFrame ≤ (rget s.sync.queues p).lastAddedFrame
  /-- queues of remote players: no delay, inputs strictly sequential, nothing but real inputs -/
  remote : ∀ p, p < s.sync.queues.length → p ∉ s.localPlayerHandles →
    (gh.specs p).delay = 0 ∧ (gh.specs p).lastUser = (rget s.localConnectStatus p).lastFrame ∧
    ((gh.specs p).vals.length : Int) = (gh.specs p).lastUser + 1


/-- The two bookkeeping clauses only read the streams' lengths (which are the queues'
`last_added_frame`), the statuses and the handles. -/
theorem SessInv.of_tinv {s s' : P2P} {gh gh' : Ghost} {t0 : TLState} {reqs reqs' : List Request}
    (h : SessInv s gh t0 reqs) (hinv : TInv s'.pred s'.sync s'.localConnectStatus gh' t0 reqs')
    (hask : AllAsked s'.sync.queues s'.sync.currentFrame) (hsp : gh'.specs = gh.specs)
    (hst : s'.localConnectStatus = s.localConnectStatus) (hh : s'.handles = s.handles) : SessInv s' gh' t0 reqs' := by
  have hnq : s'.sync.queues.length = s.sync.queues.length := by
    rw [← hinv.sync.nq, hst]; exact h.tinv.sync.nq
  refine ⟨hinv, hask, fun p hp => ?_, fun p hp hnl => ?_⟩
  · rw [hst, lastAdded_of_QI (hinv.sync.all p hp), hsp, ← lastAdded_of_QI (h.tinv.sync.all p (hnq ▸ hp))]
    exact h.status p (hnq ▸ hp)
  · rw [hsp, hst]
    exact h.remote p (hnq ▸ hp) (P2P.localPlayerHandles_congr hh ▸ hnl)

theorem SessInv_of_settled (s s' : P2P) (gh gh' : Ghost) (t0 : TLState) (reqs reqs' : List Request)
    (h : SessInv s gh t0 reqs) (hs : Settled s s' gh gh' t0 reqs') : SessInv s' gh' t0 reqs' :=
  h.of_tinv hs.tinv hs.asked hs.specs hs.statuses hs.rest.1

theorem SessInv_congr (s s' : P2P) (gh : Ghost) (t0 : TLState) (reqs : List Request) (h : SessInv s gh t0 reqs)
    (h1 : s'.pred = s.pred) (h2 : s'.sync = s.sync) (h3 : s'.localConnectStatus = s.localConnectStatus)
    (h4 : s'.handles = s.handles) : SessInv s' gh t0 reqs :=
  h.of_tinv (by rw [h1, h2, h3]; exact h.tinv) (by rw [h2]; exact h.asked) rfl h3 h4

theorem SessInv_sameQueues (s s2 : P2P) (gh : Ghost) (t : TLState) (reqs : List Request) (h : SessInv s gh t reqs)
    (hq : s2.sync.queues = s.sync.queues) (hc : s2.sync.currentFrame = s.sync.currentFrame)
    (hp : s2.pred = s.pred) (hst : s2.localConnectStatus = s.localConnectStatus) (hh : s2.handles = s.handles) :
    SessInv s2 gh t reqs :=
  h.of_tinv (by rw [hp, hst]; exact h.tinv.congr hq hc rfl) (by rw [hq, hc]; exact h.asked) rfl hst hh

theorem SessInv_save (s : P2P) (gh : Ghost) (t : TLState) (reqs : List Request) (sy : SyncLayer) (r : Request)
    (h : SessInv s gh t reqs) (hsv : s.sync.saveCurrentState = .ok (sy, r)) :
    SessInv ({ s with sync := sy } : P2P) gh t (reqs ++ [r]) := by
  obtain ⟨_, rfl, rfl⟩ := SyncLayer.saveCurrentState_ok hsv
  exact h.of_tinv (h.tinv.congr rfl rfl (execReqs_append _ _ _)) h.asked rfl rfl rfl

theorem confirmTarget_le (sp : Bool) (f ls cur : Frame) : min (if sp = true then min f ls else f) cur ≤ f := by
  refine Int.le_trans (Int.min_le_left _ _) ?_
  split
  · exact Int.min_le_left _ _
  · exact Int.le_refl _

/-- `set_last_confirmed_frame` with a frame no player's status exceeds. -/
theorem setLastConfirmed_spec (s : P2P) (sy' : SyncLayer) (gh : Ghost) (t0 : TLState) (reqs : List Request)
    (frame : Frame) (h : SessInv s gh t0 reqs)
    (hle : ∀ p, p < s.sync.queues.length → frame ≤ (rget s.localConnectStatus p).lastFrame)
    (hset : s.sync.setLastConfirmedFrame frame s.sparse = .ok sy') :
    SessInv { s with sync := sy' } gh t0 reqs ∧ sy'.currentFrame = s.sync.currentFrame ∧
    (∀ p, p < sy'.queues.length → (rget sy'.queues p).firstIncorrectFrame = (rget s.sync.queues p).firstIncorrectFrame) ∧
    sy'.queues.length = s.sync.queues.length := by
  obtain ⟨fr, qs, hfr, rfl, hpos, hnpos⟩ := SyncLayer.setLastConfirmedFrame_ok hset
  by_cases hp : 0 < fr
  · obtain ⟨hl, hpt⟩ := mapM_ok _ _ _ (hpos hp)
    have hstep : ∀ p, p < qs.length →
        (QI s.pred (rget qs p) (gh.specs p) (gh.hists p) (gh.T p) s.sync.currentFrame ∧
          Asked (rget qs p) s.sync.currentFrame) ∧
        (rget qs p).firstIncorrectFrame = (rget s.sync.queues p).firstIncorrectFrame := by
      intro p hp
      rw [hl] at hp
      have hlt : fr - 1 < (rget s.sync.queues p).lastAddedFrame :=
        Int.sub_one_lt_of_le (Int.le_trans (hfr ▸ confirmTarget_le s.sparse frame s.sync.lastSavedFrame s.sync.currentFrame)
          (Int.le_trans (hle p hp) (h.status p hp)))
      exact ⟨QI_discard s.pred _ _ _ _ _ _ (fr - 1) (h.tinv.sync.all p hp) (h.asked p hp) hlt (hpt p hp),
        (discard_fields _ _ _ (hpt p hp)).2.1⟩
    exact ⟨h.of_tinv ⟨⟨h.tinv.sync.cur, h.tinv.sync.nq.trans hl.symm, h.tinv.sync.conn, fun p hp => (hstep p hp).1.1⟩,
        h.tinv.exec, fun p hp => h.tinv.rows p (hl ▸ hp)⟩ (fun p hp => (hstep p hp).1.2) rfl rfl rfl,
      rfl, fun p hp => (hstep p hp).2, hl⟩
  · obtain rfl := hnpos hp
    exact ⟨h.of_tinv (h.tinv.congr rfl rfl rfl) h.asked rfl rfl rfl, rfl, fun _ _ => rfl, rfl⟩

theorem setLastConfirmed_le (sy sy' : SyncLayer) (f : Frame) (sp : Bool)
    (h : sy.setLastConfirmedFrame f sp = .ok sy') : sy'.lastConfirmedFrame ≤ f := by
  obtain ⟨fr, qs, rfl, rfl, _⟩ := SyncLayer.setLastConfirmedFrame_ok h
  exact confirmTarget_le sp f sy.lastSavedFrame sy.currentFrame

theorem submit_remote (s : QSpec) (uf : Int) (v : Input) (h0 : 0 ≤ uf) (hd : s.delay = 0)
    (hseq : s.lastUser = -1 ∨ uf = s.lastUser + 1) (hlen : (s.vals.length : Int) = s.lastUser + 1) :
    (s.submit uf v).1.delay = 0 ∧ (s.submit uf v).1.lastUser = uf ∧
    ((s.submit uf v).1.vals.length : Int) = uf + 1 := by
  have h2 : ¬ (s.vals.length : Int) > uf + s.delay := by rw [hd]; omega
  rw [QSpec.submit_seq v hseq, if_neg h2]
  exact ⟨hd, rfl, by rw [length_landed _ _ _ _ h2, hd, Int.natCast_zero, Int.add_zero]⟩

/-- The prediction gate (`synchronized_inputs` + `advance_frame`, or a stall). -/
theorem rollbackGate_spec (s s' : P2P) (gh : Ghost) (t0 : TLState) (reqs reqs' : List Request)
    (h : SessInv s gh t0 reqs) (hg : s.rollbackGate reqs = .ok (s', reqs')) :
    ∃ gh', SessInv s' gh' t0 reqs' ∧ gh'.specs = gh.specs ∧ s'.localConnectStatus = s.localConnectStatus ∧
      s'.handles = s.handles ∧ s'.pred = s.pred ∧
      ((s' = s ∧ reqs' = reqs) ∨
       (∃ (c : Nat) (ins : List (Input × InputStatus)), s.sync.currentFrame = (c : Int) ∧
          reqs' = reqs ++ [.advance ins] ∧ InputsOk s.pred gh c ins ∧ s'.sync.currentFrame = s.sync.currentFrame + 1)) := by
  rcases P2P.rollbackGate_ok hg with ⟨_, rfl, rfl⟩ | ⟨_, sy1, ins, hsim, rfl, rfl⟩
  · exact ⟨gh, h, rfl, rfl, rfl, rfl, Or.inl ⟨rfl, rfl⟩⟩
  · obtain ⟨c, gh', hc, hok, hsp, hinv, hcur, hask, _⟩ :=
      TInv_simulate s.pred s.sync sy1 sy1 s.localConnectStatus gh t0 reqs [] ins h.tinv hsim
        (fun r hr => absurd hr List.not_mem_nil) rfl rfl
    rw [List.append_nil] at hinv
    exact ⟨gh', h.of_tinv hinv hask hsp rfl rfl, hsp, rfl, rfl, rfl, Or.inr ⟨c, ins, hc, rfl, hok, hcur⟩⟩

theorem update_pointwise {P : Nat → InputQueue → ConnStatus → QSpec → Prop} {qs : List InputQueue}
    {sts : List ConnStatus} {p : Nat} (specs : Nat → QSpec) (q' : InputQueue) (st' : ConnStatus) (sp' : QSpec)
    (hq : p < qs.length) (hs : p < sts.length) (h : ∀ i, i < qs.length → P i (rget qs i) (rget sts i) (specs i))
    (hp : P p q' st' sp') (i : Nat) (hi : i < (rset qs p q').length) :
    P i (rget (rset qs p q') i) (rget (rset sts p st') i) (if i = p then sp' else specs i) := by
  by_cases hip : i = p
  · rw [hip, rget_rset_eq _ _ _ hq, rget_rset_eq _ _ _ hs, if_pos rfl]
    exact hp
  · rw [rget_rset_ne _ _ _ _ (Ne.symm hip), rget_rset_ne _ _ _ _ (Ne.symm hip), if_neg hip]
    exact h i (rset_length _ _ _ ▸ hi)

/-- Replacing one queue (and its stream) while the rest stays. -/
theorem SessInv_update (s : P2P) (gh : Ghost) (t0 : TLState) (reqs : List Request) (h : SessInv s gh t0 reqs)
    (p : Nat) (hp : p < s.sync.queues.length) (q' : InputQueue) (sp' : QSpec) (st' : ConnStatus)
    (hqi : QI s.pred q' sp' (gh.hists p) (gh.T p) s.sync.currentFrame) (hask : Asked q' s.sync.currentFrame)
    (hconn : st'.disconnected = false) (hst : st'.lastFrame ≤ q'.lastAddedFrame)
    (hrem : p ∉ s.localPlayerHandles → sp'.delay = 0 ∧ sp'.lastUser = st'.lastFrame ∧ (sp'.vals.length : Int) = sp'.lastUser + 1) :
    SessInv { s with sync := { s.sync with queues := rset s.sync.queues p q' },
                     localConnectStatus := rset s.localConnectStatus p st' }
      { gh with specs := fun i => if i = p then sp' else gh.specs i } t0 reqs := by
  have upd := fun P => @update_pointwise P _ _ _ gh.specs q' st' sp' hp (h.tinv.sync.nq ▸ hp)
  refine ⟨⟨⟨h.tinv.sync.cur, ?_, ?_, ?_⟩, h.tinv.exec, fun i hi f => h.tinv.rows i (rset_length _ _ _ ▸ hi) f⟩, ?_, ?_, ?_⟩
  · show (rset s.localConnectStatus p st').length = (rset s.sync.queues p q').length
    rw [rset_length, rset_length]; exact h.tinv.sync.nq
  · intro cs hcs
    rcases mem_rset _ _ _ _ hcs with h1 | h1
    · rw [h1]; exact hconn
    · exact h.tinv.sync.conn cs h1
  · exact upd (fun i q _ sp => QI s.pred q sp (gh.hists i) (gh.T i) s.sync.currentFrame) h.tinv.sync.all hqi
  · exact upd (fun _ q _ _ => Asked q s.sync.currentFrame) h.asked hask
  · exact upd (fun _ q st _ => st.lastFrame ≤ q.lastAddedFrame) h.status hst
  · exact upd (fun i _ st sp => i ∉ s.localPlayerHandles →
      sp.delay = 0 ∧ sp.lastUser = st.lastFrame ∧ (sp.vals.length : Int) = sp.lastUser + 1) h.remote hrem

/-- **Arrival of a remote input** (`handle_event` for `Event::Input`). -/
theorem remoteInput_spec (s s' : P2P) (gh : Ghost) (t0 : TLState) (reqs : List Request) (now : Nat)
    (inp : PlayerInput) (player : Nat) (handles : List Nat) (addr : Nat)
    (h : SessInv s gh t0 reqs) (hnl : player ∉ s.localPlayerHandles) (h0 : 0 ≤ inp.frame)
    (hev : s.handleEventCore now (.input inp player) handles addr = .ok s') :
    ∃ gh', SessInv s' gh' t0 reqs ∧ gh'.T = gh.T ∧ s'.sync.currentFrame = s.sync.currentFrame ∧
      s'.handles = s.handles ∧ s'.pred = s.pred ∧
      (∀ p, gh'.specs p = if p = player then ((gh.specs p).submit inp.frame inp.input).1 else gh.specs p) := by
  obtain ⟨_, _, hev⟩ := P2P.handleEventCore_input_ok hev
  have hnd : (rget s.localConnectStatus player).disconnected = false := by
    by_cases hp : player < s.localConnectStatus.length
    · exact h.tinv.sync.conn _ (mem_of_rget _ _ hp)
    · rw [rget, List.getD_eq_getElem?_getD, List.getElem?_eq_none (Nat.le_of_not_lt hp)]
      rfl
  obtain ⟨hseq, sy, hadd, rfl⟩ := hev hnd
  obtain ⟨hp, q', fr, haq, rfl⟩ := SyncLayer.addRemoteInput_ok hadd
  obtain ⟨hqi, hask, _⟩ := QI_add s.pred _ q' _ _ _ _ inp.frame inp.input fr (h.tinv.sync.all player hp)
    (h.asked player hp) haq
  obtain ⟨hd, hlu, hlen⟩ := h.remote player hp hnl
  obtain ⟨hd', hlu', hlen'⟩ := submit_remote (gh.specs player) inp.frame inp.input h0 hd
    (by rw [hlu]; exact hseq.imp_right Eq.symm) hlen
  have hupd := SessInv_update s gh t0 reqs h player hp q' _ { rget s.localConnectStatus player with lastFrame := inp.frame }
    hqi hask hnd (by rw [lastAdded_of_QI hqi, hlen', Int.add_sub_cancel]; exact Int.le_refl _)
    (fun _ => ⟨hd', hlu', by rw [hlu']; exact hlen'⟩)
  refine ⟨_, hupd, rfl, rfl, rfl, rfl, fun p => ?_⟩
  show (if p = player then _ else gh.specs p) = _
  by_cases hpp : p = player
  · subst hpp
    rw [if_pos rfl]
  · rw [if_neg hpp, if_neg hpp]

theorem submit_facts (s : QSpec) (uf : Int) (v : Input) :
    s.vals.length ≤ (s.submit uf v).1.vals.length ∧
    ((s.submit uf v).2 ≠ NULL_FRAME → ((s.submit uf v).1.vals.length : Int) = (s.submit uf v).2 + 1) := by
  rcases submit_cases s uf v with ⟨he, hv⟩ | ⟨hle, hfr, hv⟩
  · exact ⟨Nat.le_of_eq (congrArg List.length hv).symm, fun h => absurd he h⟩
  · rw [hv, hfr]
    exact ⟨by rw [List.append_assoc, List.length_append]; exact Nat.le_add_right _ _,
      fun _ => length_landed _ _ _ _ (Int.not_lt.mpr hle)⟩

/-- One local player's input is registered (`add_local_input` and the bookkeeping around it). -/
theorem registerOne_spec (s s' : P2P) (gh : Ghost) (t0 : TLState) (reqs : List Request) (hd : Nat)
    (h : SessInv s gh t0 reqs) (hloc : hd ∈ s.localPlayerHandles) (hreg : s.registerOne hd = .ok s') :
    ∃ gh', SessInv s' gh' t0 reqs ∧ gh'.T = gh.T ∧ s'.sync.currentFrame = s.sync.currentFrame ∧
      s'.handles = s.handles ∧ s'.pred = s.pred ∧ s'.sparse = s.sparse ∧ s'.maxPrediction = s.maxPrediction ∧
      s'.sync.queues.length = s.sync.queues.length ∧ s'.sync.lastConfirmedFrame = s.sync.lastConfirmedFrame ∧
      (∀ p, (gh.specs p).vals.length ≤ (gh'.specs p).vals.length) ∧
      ∃ pi, s.pendingInputOf hd = .ok pi ∧
        gh'.specs = fun i => if i = hd then ((gh.specs hd).submit pi.frame pi.input).1 else gh.specs i := by
  obtain ⟨pi, sy, fr, hpi, hadd, hnull, hland⟩ := P2P.registerOne_ok hreg
  obtain ⟨_, hp, q', haq, rfl⟩ := SyncLayer.addLocalInput_ok hadd
  obtain ⟨hqi, hask, hfrs⟩ := QI_add s.pred _ q' _ _ _ _ pi.frame pi.input fr (h.tinv.sync.all hd hp)
    (h.asked hd hp) haq
  obtain ⟨hge, hlen⟩ := submit_facts (gh.specs hd) pi.frame pi.input
  have hpst : hd < s.localConnectStatus.length := by rw [h.tinv.sync.nq]; exact hp
  have hnd : (rget s.localConnectStatus hd).disconnected = false := h.tinv.sync.conn _ (mem_of_rget _ _ hpst)
  have hgrow : ∀ p, (gh.specs p).vals.length ≤
      (if p = hd then ((gh.specs hd).submit pi.frame pi.input).1 else gh.specs p).vals.length := by
    intro p
    by_cases hpp : p = hd
    · subst hpp; rw [if_pos rfl]; exact hge
    · rw [if_neg hpp]; exact Nat.le_refl _
  -- the queue and the stream of `hd` are replaced; its status moves on if the input landed
  have hupd := fun st' hc hst => SessInv_update s gh t0 reqs h hd hp q' _ st' hqi hask hc hst (fun hc => absurd hloc hc)
  by_cases hact : fr = NULL_FRAME
  · obtain rfl := hnull hact
    have hst : (rget s.localConnectStatus hd).lastFrame ≤ q'.lastAddedFrame := by
      refine Int.le_trans (h.status hd hp) ?_
      rw [lastAdded_of_QI (h.tinv.sync.all hd hp), lastAdded_of_QI hqi]
      exact Int.sub_le_sub_right (Int.ofNat_le.mpr hge) 1
    exact ⟨_, SessInv_congr _ _ _ t0 reqs (hupd _ hnd hst) rfl rfl (rset_rget_self _ _ hpst).symm rfl, rfl, rfl, rfl,
      rfl, rfl, rfl, rset_length _ _ _, rfl, hgrow, pi, hpi, rfl⟩
  · obtain ⟨s2, hbl, hout⟩ := hland hact
    have hc1 := P2P.queueInitialBlanks_sameCore _ _ _ _ hbl
    have hc2 := P2P.queueOutgoing_sameCore _ _ _ _ hout
    have hsy : s'.sync = { s.sync with queues := rset s.sync.queues hd q' } := hc2.sync.trans hc1.sync
    have hsts : s'.localConnectStatus =
        rset s.localConnectStatus hd { rget s.localConnectStatus hd with lastFrame := fr } := by
      rw [hc2.statuses]; show rset s2.localConnectStatus hd _ = _; rw [hc1.statuses]
    have hst : fr ≤ q'.lastAddedFrame := by
      rw [lastAdded_of_QI hqi, hlen (hfrs ▸ hact), Int.add_sub_cancel, hfrs]
      exact Int.le_refl _
    exact ⟨_, SessInv_congr _ s' _ t0 reqs (hupd { rget s.localConnectStatus hd with lastFrame := fr } hnd hst)
        (hc2.pred.trans hc1.pred) hsy hsts (hc2.handles.trans hc1.handles),
      rfl, by rw [hsy], hc2.handles.trans hc1.handles, hc2.pred.trans hc1.pred,
      hc2.sparse.trans hc1.sparse, hc2.maxPrediction.trans hc1.maxPrediction,
      by rw [hsy]; exact rset_length _ _ _, by rw [hsy], hgrow, pi, hpi, rfl⟩

structure RegKeeps (s s' : P2P) (gh gh' : Ghost) : Prop where
  T : gh'.T = gh.T
  cur : s'.sync.currentFrame = s.sync.currentFrame
  handles : s'.handles = s.handles
  pred : s'.pred = s.pred
  sparse : s'.sparse = s.sparse
  maxPrediction : s'.maxPrediction = s.maxPrediction
  nq : s'.sync.queues.length = s.sync.queues.length
  lastConfirmed : s'.sync.lastConfirmedFrame = s.sync.lastConfirmedFrame
  grows : ∀ p, (gh.specs p).vals.length ≤ (gh'.specs p).vals.length


theorem RegKeeps.refl (s : P2P) (gh : Ghost) : RegKeeps s s gh gh :=
  ⟨rfl, rfl, rfl, rfl, rfl, rfl, rfl, rfl, fun _ => Nat.le_refl _⟩

theorem RegKeeps.trans {a b c : P2P} {ga gb gc : Ghost} (h1 : RegKeeps a b ga gb) (h2 : RegKeeps b c gb gc) :
    RegKeeps a c ga gc :=
  ⟨h2.T.trans h1.T, h2.cur.trans h1.cur, h2.handles.trans h1.handles, h2.pred.trans h1.pred,
    h2.sparse.trans h1.sparse, h2.maxPrediction.trans h1.maxPrediction, h2.nq.trans h1.nq,
    h2.lastConfirmed.trans h1.lastConfirmed, fun p => Nat.le_trans (h1.grows p) (h2.grows p)⟩

theorem RegKeeps.of_sameCore {s s' : P2P} (gh : Ghost) (hc : P2P.SameCore s s') : RegKeeps s s' gh gh :=
  ⟨rfl, congrArg _ hc.sync, hc.handles, hc.pred, hc.sparse, hc.maxPrediction, congrArg (·.queues.length) hc.sync,
    congrArg _ hc.sync, fun _ => Nat.le_refl _⟩

theorem registerFold_spec (t0 : TLState) (reqs : List Request) : ∀ (l : List Nat) (s s' : P2P) (gh : Ghost),
    SessInv s gh t0 reqs → (∀ x ∈ l, x ∈ s.localPlayerHandles) → l.foldlM P2P.registerOne s = .ok s' →
    ∃ gh', SessInv s' gh' t0 reqs ∧ RegKeeps s s' gh gh' := by
  intro l
  induction l with
  | nil =>
    intro s s' gh h _ hf
    obtain rfl := pure_ok hf
    exact ⟨gh, h, RegKeeps.refl s gh⟩
  | cons a rest ih =>
    intro s s' gh h hl hf
    simp only [List.foldlM_cons] at hf
    obtain ⟨s1, h1, hf⟩ := bind_ok hf
    obtain ⟨gh1, hinv1, hT1, hc1, hh1, hp1, hsp1, hm1, hn1, hlc1, hgr1, _⟩ :=
      registerOne_spec s s1 gh t0 reqs a h (hl a List.mem_cons_self) h1
    obtain ⟨gh', hinv', hk⟩ := ih s1 s' gh1 hinv1
      (fun x hx => P2P.localPlayerHandles_congr hh1 ▸ hl x (List.mem_cons_of_mem _ hx)) hf
    exact ⟨gh', hinv', RegKeeps.trans ⟨hT1, hc1, hh1, hp1, hsp1, hm1, hn1, hlc1, hgr1⟩ hk⟩

theorem registerLocalInputs_spec (s s' : P2P) (gh : Ghost) (t0 : TLState) (reqs : List Request) (now : Nat)
    (h : SessInv s gh t0 reqs) (hreg : s.registerLocalInputs now = .ok s') :
    ∃ gh', SessInv s' gh' t0 reqs ∧ RegKeeps s s' gh gh' := by
  obtain ⟨s1, hfold, hsend⟩ := P2P.registerLocalInputs_ok hreg
  obtain ⟨gh', hinv, hk⟩ := registerFold_spec t0 reqs _ s s1 gh h (fun x hx => hx) hfold
  have hc := P2P.sendReady_sameCore _ _ _ hsend
  exact ⟨gh', SessInv_congr s1 s' gh' t0 reqs hinv hc.pred hc.sync hc.statuses hc.handles,
    hk.trans (RegKeeps.of_sameCore gh' hc)⟩

theorem confirmedFrame_le (s : P2P) (c : Frame) (h : s.confirmedFrame = .ok c)
    (hconn : ∀ cs ∈ s.localConnectStatus, cs.disconnected = false) :
    ∀ p, p < s.localConnectStatus.length → c ≤ (rget s.localConnectStatus p).lastFrame := by
  intro p hp
  exact (P2P.confirmedFrame_le_mem h).2 _ (mem_of_rget _ _ hp) (hconn _ (mem_of_rget _ _ hp))

/-- The gate, in terms of frames (the two cases of `last_confirmed_frame`). -/
theorem P2P.C04_window_frames_aux (s s' : P2P) (reqs reqs' : List Request) (h : s.rollbackGate reqs = .ok (s', reqs'))
    (hadv : s'.sync.currentFrame ≠ s.sync.currentFrame) :
    (s.sync.lastConfirmedFrame = NULL_FRAME ∧ s.sync.currentFrame < s.maxPrediction) ∨
    (s.sync.lastConfirmedFrame ≠ NULL_FRAME ∧ s.sync.currentFrame - s.sync.lastConfirmedFrame < s.maxPrediction) := by
  rcases P2P.rollbackGate_ok h with ⟨_, rfl, _⟩ | ⟨hg, _⟩
  · exact absurd rfl hadv
  · unfold P2P.framesAheadOfConfirmed at hg
    by_cases hn : s.sync.lastConfirmedFrame = NULL_FRAME
    · left; rw [if_pos (by simp [hn])] at hg; exact ⟨hn, hg⟩
    · right; rw [if_neg (by simpa using hn)] at hg; exact ⟨hn, hg⟩

/-- A rollback-mode `advance_frame` up to the prediction gate. Every stream reaches the frame confirmed
at the gate. -/
theorem advanceRollbackFrame_pre (s s' : P2P) (gh : Ghost) (t0 : TLState) (reqs reqs' : List Request) (now : Nat)
    (h : SessInv s gh t0 reqs) (hadv : s.advanceRollbackFrame now reqs = .ok (s', reqs')) :
    ∃ (s1 s4 : P2P) (reqs1 : List Request) (gh1 gh2 : Ghost),
      Settled s s1 gh gh1 t0 reqs1 ∧ TimelineRight s1.sync gh1 ∧
      SessInv s4 gh2 t0 reqs1 ∧ s4.rollbackGate reqs1 = .ok (s', reqs') ∧
      s4.sync.currentFrame = s.sync.currentFrame ∧ s4.pred = s.pred ∧ s4.handles = s.handles ∧
      s4.maxPrediction = s.maxPrediction ∧ s4.sync.queues.length = s.sync.queues.length ∧
      ∀ p, p < s.sync.queues.length → s4.sync.lastConfirmedFrame ≤ ((gh2.specs p).vals.length : Int) - 1 := by
  obtain ⟨confirmed, s1, reqs1, s2, sy3, s4, hconf, hrs, hspec, hset, hreg, hgate⟩ := P2P.advanceRollbackFrame_ok hadv
  obtain ⟨gh1, hsettled, hright⟩ := handleRollbackAndSave_spec s s1 confirmed t0 reqs reqs1 gh h.tinv h.asked hrs
  have hinv1 := SessInv_of_settled s s1 gh gh1 t0 reqs reqs1 h hsettled
  -- spectators: network only
  have hc2 := P2P.sendConfirmed_sameCore _ _ _ _ hspec
  have hinv2 := SessInv_congr s1 s2 gh1 t0 reqs1 hinv1 hc2.pred hc2.sync hc2.statuses hc2.handles
  have hnq2 : s2.sync.queues.length = s.sync.queues.length := by rw [hc2.sync, hsettled.nq]
  have hle : ∀ p, p < s2.sync.queues.length → confirmed ≤ (rget s2.localConnectStatus p).lastFrame := by
    intro p hp
    rw [hc2.statuses, hsettled.statuses]
    exact confirmedFrame_le s confirmed hconf h.tinv.sync.conn p (by rw [h.tinv.sync.nq, ← hnq2]; exact hp)
  obtain ⟨hinv3, hcur3, _, hq3⟩ := setLastConfirmed_spec s2 sy3 gh1 t0 reqs1 confirmed hinv2 hle hset
  obtain ⟨gh2, hinv4, hk4⟩ := registerLocalInputs_spec _ s4 gh1 t0 reqs1 now hinv3 hreg
  refine ⟨s1, s4, reqs1, gh1, gh2, hsettled, hright, hinv4, hgate,
    by rw [hk4.cur]; exact hcur3.trans ((congrArg _ hc2.sync).trans hsettled.cur),
    by rw [hk4.pred]; exact hc2.pred.trans hsettled.pred,
    by rw [hk4.handles]; exact hc2.handles.trans hsettled.rest.1,
    by rw [hk4.maxPrediction]; exact hc2.maxPrediction.trans hsettled.rest.2.1,
    by rw [hk4.nq]; exact hq3.trans hnq2, fun p hp => ?_⟩
  -- everybody's stream reaches the confirmed frame, and the streams only grew since
  have hp2 : p < s2.sync.queues.length := hnq2 ▸ hp
  rw [hk4.lastConfirmed]
  refine Int.le_trans (setLastConfirmed_le _ _ _ _ hset) (Int.le_trans (hle p hp2) (Int.le_trans (hinv2.status p hp2) ?_))
  rw [lastAdded_of_QI (hinv2.tinv.sync.all p hp2)]
  exact Int.sub_le_sub_right (Int.ofNat_le.mpr (hk4.grows p)) 1

/-- One rollback-mode `advance_frame` call, for a session in which nobody is marked disconnected. After
`reqs1`, the requests of the rollback-and-save phase, the game's timeline agrees with every input
received so far. Unless the prediction window is exhausted, one new frame is simulated: with the real
inputs where they have arrived, and the fresh prediction only where they have not. -/
theorem advanceRollbackFrame_spec (s s' : P2P) (gh : Ghost) (t0 : TLState) (reqs reqs' : List Request) (now : Nat)
    (h : SessInv s gh t0 reqs) (hadv : s.advanceRollbackFrame now reqs = .ok (s', reqs')) :
    ∃ (s1 : P2P) (reqs1 : List Request) (gh1 gh2 gh' : Ghost),
      Settled s s1 gh gh1 t0 reqs1 ∧ TimelineRight s1.sync gh1 ∧
      SessInv s' gh' t0 reqs' ∧ s'.handles = s.handles ∧ s'.pred = s.pred ∧
      (reqs' = reqs1 ∨ ∃ (c : Nat) (ins : List (Input × InputStatus)), s.sync.currentFrame = (c : Int) ∧
        reqs' = reqs1 ++ [.advance ins] ∧ InputsOk s.pred gh2 c ins ∧ gh'.specs = gh2.specs ∧
        s'.sync.currentFrame = s.sync.currentFrame + 1) := by
  obtain ⟨s1, s4, reqs1, gh1, gh2, hsettled, hright, hinv4, hgate, hcur4, hpred4, hh4, _⟩ :=
    advanceRollbackFrame_pre s s' gh t0 reqs reqs' now h hadv
  obtain ⟨gh', hinv', hsp', _, hh', hp', hcase⟩ := rollbackGate_spec s4 s' gh2 t0 reqs1 reqs' hinv4 hgate
  refine ⟨s1, reqs1, gh1, gh2, gh', hsettled, hright, hinv', hh'.trans hh4, hp'.trans hpred4, ?_⟩
  rcases hcase with ⟨_, hr⟩ | ⟨c, ins, hc, hr, hok, hcur'⟩
  · exact Or.inl hr
  · exact Or.inr ⟨c, ins, hcur4 ▸ hc, hr, hpred4 ▸ hok, hsp', by rw [hcur', hcur4]⟩

/-- The prediction window: if a rollback-mode `advance_frame` simulates a new frame `c`, then every
player's queue holds real inputs at least up to frame `c - max_prediction`. -/
theorem window_all (s s' : P2P) (gh : Ghost) (t0 : TLState) (reqs reqs' : List Request) (now : Nat)
    (h : SessInv s gh t0 reqs) (hadv : s.advanceRollbackFrame now reqs = .ok (s', reqs'))
    (hnew : s'.sync.currentFrame ≠ s.sync.currentFrame) :
    ∃ gh', SessInv s' gh' t0 reqs' ∧ ∀ p, p < s.sync.queues.length →
      s.sync.currentFrame - ((gh'.specs p).vals.length - 1 : Int) ≤ s.maxPrediction := by
  obtain ⟨s1, s4, reqs1, gh1, gh2, _, _, hinv4, hgate, hcur4, _, _, hmp4, _, hreach⟩ :=
    advanceRollbackFrame_pre s s' gh t0 reqs reqs' now h hadv
  obtain ⟨gh', hinv', hsp', _⟩ := rollbackGate_spec s4 s' gh2 t0 reqs1 reqs' hinv4 hgate
  -- the gate let a frame through
  have hgw : s.sync.currentFrame - s4.sync.lastConfirmedFrame ≤ s.maxPrediction := by
    have hgw := P2P.C04_window_frames_aux s4 s' reqs1 reqs' hgate (by rw [hcur4]; exact hnew)
    rw [hcur4, hmp4] at hgw
    rcases hgw with ⟨hn, hlt⟩ | ⟨_, hlt⟩
    · rw [hn, NULL_FRAME, Int.sub_neg]
      exact Int.add_one_le_of_lt hlt
    · exact Int.le_of_lt hlt
  refine ⟨gh', hinv', fun p hp => ?_⟩
  rw [hsp']
  exact Int.le_trans (Int.sub_le_sub_left (hreach p hp) _) hgw

/-- A call keeps the number of queues: the gate keeps the status vector, which is as long. -/
theorem rollbackTick_nq (s s' : P2P) (gh : Ghost) (t : TLState) (reqs reqs' : List Request) (now : Nat)
    (h : SessInv s gh t reqs) (hadv : s.advanceRollbackFrame now reqs = .ok (s', reqs')) :
    s'.sync.queues.length = s.sync.queues.length := by
  obtain ⟨s1, s4, reqs1, gh1, gh2, _, _, hinv4, hgate, _, _, _, _, hnq4, _⟩ :=
    advanceRollbackFrame_pre s s' gh t reqs reqs' now h hadv
  obtain ⟨gh', hinv', _, hst', _⟩ := rollbackGate_spec s4 s' gh2 t reqs1 reqs' hinv4 hgate
  rw [← hinv'.tinv.sync.nq, hst', hinv4.tinv.sync.nq, hnq4]

theorem SessInv_rebase (s : P2P) (gh : Ghost) (t0 : TLState) (reqs : List Request) (h : SessInv s gh t0 reqs) :
    SessInv s gh (execReqs t0 reqs) [] :=
  ⟨⟨h.tinv.sync, h.tinv.exec, h.tinv.rows⟩, h.asked, h.status, h.remote⟩


theorem userSave_foldl (l : List (Frame × Option Nat)) : ∀ sy : SyncLayer,
    (l.foldl (fun sy (p : Frame × Option Nat) => sy.userSave p.1 p.2) sy).queues = sy.queues ∧
    (l.foldl (fun sy (p : Frame × Option Nat) => sy.userSave p.1 p.2) sy).currentFrame = sy.currentFrame ∧
    (l.foldl (fun sy (p : Frame × Option Nat) => sy.userSave p.1 p.2) sy).cells.length = sy.cells.length ∧
    (l.foldl (fun sy (p : Frame × Option Nat) => sy.userSave p.1 p.2) sy).lastSavedFrame = sy.lastSavedFrame := by
  induction l with
  | nil => intro sy; exact ⟨rfl, rfl, rfl, rfl⟩
  | cons a as ih =>
    intro sy
    obtain ⟨h1, h2, h3, h4⟩ := ih (sy.userSave a.1 a.2)
    exact ⟨h1, h2, h3.trans (rset_length _ _ _), h4⟩

theorem userExecute_fields (s : P2P) (saves : List (Frame × Option Nat)) :
    (s.userExecute saves).sync.queues = s.sync.queues ∧ (s.userExecute saves).sync.currentFrame = s.sync.currentFrame ∧
    (s.userExecute saves).sync.cells.length = s.sync.cells.length ∧
    (s.userExecute saves).pred = s.pred ∧ (s.userExecute saves).localConnectStatus = s.localConnectStatus ∧
    (s.userExecute saves).handles = s.handles ∧ (s.userExecute saves).sparse = s.sparse := by
  obtain ⟨h1, h2, h3, _⟩ := userSave_foldl saves s.sync
  exact ⟨h1, h2, h3, rfl, rfl, rfl, rfl⟩

theorem userExecute_lastSaved (s : P2P) (saves : List (Frame × Option Nat)) :
    (s.userExecute saves).sync.lastSavedFrame = s.sync.lastSavedFrame :=
  (userSave_foldl saves s.sync).2.2.2

theorem P2P.addLocalInput_pending (s : P2P) (handle : Nat) (input : Input) :
    ∃ l, (s.addLocalInput handle input).1 = { s with pendingLocalInputs := l } := by
  unfold P2P.addLocalInput
  split
  · exact ⟨s.pendingLocalInputs, rfl⟩
  · exact ⟨_, rfl⟩

theorem SessInv_pending (s : P2P) (gh : Ghost) (t0 : TLState) (reqs : List Request) (l : List (Nat × PlayerInput))
    (h : SessInv s gh t0 reqs) : SessInv { s with pendingLocalInputs := l } gh t0 reqs :=
  SessInv_congr s _ gh t0 reqs h rfl rfl rfl rfl

theorem SessInv_userExecute (s : P2P) (gh : Ghost) (t0 : TLState) (reqs : List Request) (saves : List (Frame × Option Nat))
    (h : SessInv s gh t0 reqs) : SessInv (s.userExecute saves) gh t0 reqs := by
  obtain ⟨uq, uc, _, up, ust, uh, _⟩ := userExecute_fields s saves
  exact SessInv_sameQueues s _ gh t0 reqs h uq uc up ust uh

/-- A session and the game it drives. The steps are the things that touch the rollback core
while nobody is marked disconnected: the user submits a local input, a remote player's input
arrives, a rollback-mode `advance_frame` whose requests the game then executes, and the game writes
saved cells. -/
inductive SStep : (P2P × TLState) → (P2P × TLState) → Prop
  | remoteInput (s s' : P2P) (t : TLState) (now : Nat) (inp : PlayerInput) (player : Nat) (handles : List Nat)
      (addr : Nat) : player ∉ s.localPlayerHandles → 0 ≤ inp.frame →
      s.handleEventCore now (.input inp player) handles addr = .ok s' → SStep (s, t) (s', t)
  | tick (s s' : P2P) (t : TLState) (now : Nat) (reqs' : List Request) :
      s.advanceRollbackFrame now [] = .ok (s', reqs') → SStep (s, t) (s', execReqs t reqs')
  | localInput (s : P2P) (t : TLState) (handle : Nat) (input : Input) :
      SStep (s, t) ((s.addLocalInput handle input).1, t)
  /-- the game fulfils `SaveGameState` requests: cells are written (`cell.save`). Any cell may be
  written with any frame at any time — a superset of what a game does; the session theorems of this
  world do not depend on what the cells hold, but a call that rolls back only succeeds (is a step)
  when the cell it loads holds the frame it loads -/
  | saves (s : P2P) (t : TLState) (saves : List (Frame × Option Nat)) : SStep (s, t) (s.userExecute saves, t)

inductive SStar : (P2P × TLState) → (P2P × TLState) → Prop
  | refl (x : P2P × TLState) : SStar x x
  | step (x y z : P2P × TLState) : SStar x y → SStep y z → SStar x z

theorem SessInv_step (x y : P2P × TLState) (h : ∃ gh, SessInv x.1 gh x.2 []) (hs : SStep x y) :
    ∃ gh, SessInv y.1 gh y.2 [] := by
  obtain ⟨gh, h⟩ := h
  cases hs with
  | remoteInput s s' t now inp player handles addr hnl h0 hev =>
    obtain ⟨gh', h', _⟩ := remoteInput_spec s s' gh t [] now inp player handles addr h hnl h0 hev
    exact ⟨gh', h'⟩
  | tick s s' t now reqs' hadv =>
    obtain ⟨_, _, _, _, gh', _, _, h', _⟩ := advanceRollbackFrame_spec s s' gh t [] reqs' now h hadv
    exact ⟨gh', SessInv_rebase s' gh' t reqs' h'⟩
  | localInput s t handle input =>
    obtain ⟨l, hl⟩ := P2P.addLocalInput_pending s handle input
    exact ⟨gh, by show SessInv (s.addLocalInput handle input).1 gh t []; rw [hl]; exact SessInv_pending s gh t [] l h⟩
  | saves s t sv => exact ⟨gh, SessInv_userExecute s gh t [] sv h⟩

/-- **L-session.** The session invariant holds after every sequence of steps. -/
theorem SessInv_run (x y : P2P × TLState) (h : ∃ gh, SessInv x.1 gh x.2 []) (hr : SStar x y) :
    ∃ gh, SessInv y.1 gh y.2 [] := by
  induction hr with
  | refl => exact h
  | step y z _ hs ih => exact SessInv_step y z ih hs

theorem SessInv_init (s : P2P) (R : Nat → List (Input × InputStatus)) (n : Nat)
    (hq : s.sync.queues = List.replicate n InputQueue.new) (hst : s.localConnectStatus = List.replicate n {})
    (hc : s.sync.currentFrame = 0) :
    SessInv s ⟨fun _ => {}, fun _ => [], fun p f => ((R f).getD p default).1⟩ ⟨0, R⟩ [] := by
  have hget : ∀ p, p < n → rget s.sync.queues p = InputQueue.new := fun p hp => by
    rw [hq]; exact rget_replicate n p _ hp
  have hgs : ∀ p, p < n → rget s.localConnectStatus p = {} := fun p hp => by
    rw [hst]; exact rget_replicate n p _ hp
  have hlen : s.sync.queues.length = n := by rw [hq, List.length_replicate]
  refine ⟨⟨⟨by rw [hc]; exact Int.le_refl _, by rw [hst, hlen, List.length_replicate], ?_, ?_⟩, by rw [hc]; rfl,
    fun p _ f => rfl⟩, ?_, ?_, ?_⟩
  · intro cs hcs
    rw [hst] at hcs
    rw [(List.mem_replicate.mp hcs).2]
  · intro p hp
    rw [hlen] at hp
    rw [hget p hp, hc]
    exact QI_new s.pred _
  · intro p _ h0
    exact absurd (hc ▸ h0) (Int.lt_irrefl 0)
  · intro p hp
    rw [hlen] at hp
    rw [hget p hp, hgs p hp]
    exact Int.le_refl _
  · intro p hp _
    rw [hlen] at hp
    rw [hgs p hp]
    exact ⟨rfl, rfl, rfl⟩


end Ggrs
