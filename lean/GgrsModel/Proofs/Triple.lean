/-
L-triple: three sessions side by side (the product of `Proofs/Pair.lean` for three peers, under ONE
choice of ghosts). Invariant: the three pair invariants for one ghost per session. Conclusion
(`triple_agree`, stated for `a` and `b`; `TStep` and `TriInv` are symmetric in the three): the two
games agree on the input of every player owned by exactly one of the three — also on the third
peer's players, whose two copies are prefixes of the owner's stream.
-/
import GgrsModel.Proofs.Pair

namespace Ggrs
open InputQueue

/-- `a` moves to `a'` next to the peers `b` and `c` (arrivals: from `b`; use the swapped order for `c`). -/
inductive TMove : (P2P × TLState) → (P2P × TLState) → (P2P × TLState) → (P2P × TLState) → Prop
  | localInput (s : P2P) (t : TLState) (b c : P2P × TLState) (handle : Nat) (input : Input) :
      TMove (s, t) b c ((s.addLocalInput handle input).1, t)
  | saves (s : P2P) (t : TLState) (b c : P2P × TLState) (sv : List (Frame × Option Nat)) :
      TMove (s, t) b c (s.userExecute sv, t)
  | tick (s s' : P2P) (t : TLState) (b c : P2P × TLState) (now : Nat) (reqs' : List Request) :
      s.advanceRollbackFrame now [] = .ok (s', reqs') → TMove (s, t) b c (s', execReqs t reqs')
  | setDelay (s s' : P2P) (t : TLState) (b c : P2P × TLState) (now handle delay : Nat) (r : Except GgrsError Unit) :
      handle ∈ s.localPlayerHandles → handle < s.sync.queues.length →
      s.setInputDelay now handle delay = .ok (s', r) → TMove (s, t) b c (s', t)
  | arrive (s s' : P2P) (t : TLState) (b c : P2P × TLState) (now : Nat) (f : Nat) (v : Input) (player : Nat)
      (handles : List Nat) (addr : Nat) :
      player ∈ b.1.localPlayerHandles → player ∉ s.localPlayerHandles → player ∉ c.1.localPlayerHandles →
      player < b.1.sync.queues.length → player < s.sync.queues.length →
      (f : Int) = (rget s.localConnectStatus player).lastFrame + 1 →
      (f : Int) ≤ (rget b.1.sync.queues player).lastAddedFrame →
      (rget b.1.sync.queues player).lastAddedFrame < (f : Int) + INPUT_QUEUE_LENGTH →
      rget (rget b.1.sync.queues player).inputs (f % INPUT_QUEUE_LENGTH) = ⟨(f : Int), v⟩ →
      s.handleEventCore now (.input ⟨(f : Int), v⟩ player) handles addr = .ok s' →
      TMove (s, t) b c (s', t)

/-- One move keeps both pair invariants, for ONE new ghost. -/
theorem tmove_inv (a b c a' : P2P × TLState) (ghA ghB ghC : Ghost) (hb : PairInv a b ghA ghB) (hc : PairInv a c ghA ghC)
    (hs : TMove a b c a') : ∃ ghA', PairInv a' b ghA' ghB ∧ PairInv a' c ghA' ghC := by
  cases hs with
  | localInput s t b c handle input =>
    have m := moved_localInput s ghA t handle input hb.sa hb.ga
    exact ⟨ghA, hb.of_moved m, hc.of_moved m⟩
  | saves s t b c sv =>
    have m := moved_saves s ghA t sv hb.sa hb.ga
    exact ⟨ghA, hb.of_moved m, hc.of_moved m⟩
  | tick s s' t b c now reqs' hadv =>
    obtain ⟨gh', m⟩ := moved_tick s s' ghA t now reqs' hb.sa hb.ga hadv
    exact ⟨gh', hb.of_moved m, hc.of_moved m⟩
  | setDelay s s' t b c now handle delay r hloc hp hset =>
    obtain ⟨gh', m⟩ := moved_setDelay s s' ghA t now handle delay r hb.sa hb.ga hloc hp hset
    exact ⟨gh', hb.of_moved m, hc.of_moved m⟩
  | arrive s s' t b c now f v player handles addr hown hnl hnc hpb hps hnext hle hwin hslot hev =>
    obtain ⟨gh', hinv', hg', _, _, hh, hsp⟩ :=
      glue_remoteInputX s s' ghA t now ⟨(f : Int), v⟩ player handles addr hb.sa hb.ga hnl (Int.natCast_nonneg _) hev
    have k := linkrel_arrive s s' b.1 t b.2 ghA gh' ghB f v player hb.sa hb.sb hb.ab hb.ba hnl hpb hps hnext hle hwin hslot hh hsp
    -- towards c no stream of c's players changes
    exact ⟨gh', ⟨hinv', hg', hb.sb, hb.gb, k.1, k.2⟩, hc.of_other hinv' hg' (P2P.localPlayerHandles_congr hh) player hnl hnc
      (fun p hp => by rw [hsp p, if_neg hp])⟩

structure Tri where
  a : P2P × TLState
  b : P2P × TLState
  c : P2P × TLState

/-- One step of the triple: one session moves; its arrivals come from one of the other two. -/
inductive TStep : Tri → Tri → Prop
  | aFromB (x : Tri) (a' : P2P × TLState) : TMove x.a x.b x.c a' → TStep x { x with a := a' }
  | aFromC (x : Tri) (a' : P2P × TLState) : TMove x.a x.c x.b a' → TStep x { x with a := a' }
  | bFromA (x : Tri) (b' : P2P × TLState) : TMove x.b x.a x.c b' → TStep x { x with b := b' }
  | bFromC (x : Tri) (b' : P2P × TLState) : TMove x.b x.c x.a b' → TStep x { x with b := b' }
  | cFromA (x : Tri) (c' : P2P × TLState) : TMove x.c x.a x.b c' → TStep x { x with c := c' }
  | cFromB (x : Tri) (c' : P2P × TLState) : TMove x.c x.b x.a c' → TStep x { x with c := c' }

inductive TStar : Tri → Tri → Prop
  | refl (x) : TStar x x
  | step (x y z) : TStar x y → TStep y z → TStar x z

def TriInv (x : Tri) : Prop :=
  ∃ ghA ghB ghC, PairInv x.a x.b ghA ghB ∧ PairInv x.a x.c ghA ghC ∧ PairInv x.b x.c ghB ghC

theorem TriInv_step (x y : Tri) (h : TriInv x) (hs : TStep x y) : TriInv y := by
  obtain ⟨ghA, ghB, ghC, hab, hac, hbc⟩ := h
  cases hs with
  | aFromB a' hm =>
    obtain ⟨g, h1, h2⟩ := tmove_inv x.a x.b x.c a' ghA ghB ghC hab hac hm
    exact ⟨g, ghB, ghC, h1, h2, hbc⟩
  | aFromC a' hm =>
    obtain ⟨g, h1, h2⟩ := tmove_inv x.a x.c x.b a' ghA ghC ghB hac hab hm
    exact ⟨g, ghB, ghC, h2, h1, hbc⟩
  | bFromA b' hm =>
    obtain ⟨g, h1, h2⟩ := tmove_inv x.b x.a x.c b' ghB ghA ghC hab.symm hbc hm
    exact ⟨ghA, g, ghC, h1.symm, hac, h2⟩
  | bFromC b' hm =>
    obtain ⟨g, h1, h2⟩ := tmove_inv x.b x.c x.a b' ghB ghC ghA hbc hab.symm hm
    exact ⟨ghA, g, ghC, h2.symm, hac, h1⟩
  | cFromA c' hm =>
    obtain ⟨g, h1, h2⟩ := tmove_inv x.c x.a x.b c' ghC ghA ghB hac.symm hbc.symm hm
    exact ⟨ghA, ghB, g, hab, h1.symm, h2.symm⟩
  | cFromB c' hm =>
    obtain ⟨g, h1, h2⟩ := tmove_inv x.c x.b x.a c' ghC ghB ghA hbc.symm hac.symm hm
    exact ⟨ghA, ghB, g, hab, h2.symm, h1.symm⟩

theorem TriInv_run (x y : Tri) (h : TriInv x) (hr : TStar x y) : TriInv y := by
  induction hr with
  | refl => exact h
  | step y z _ hs ih => exact TriInv_step y z ih hs

def OwnedByOne (x : Tri) (p : Nat) : Prop :=
  (p ∈ x.a.1.localPlayerHandles ∧ p ∉ x.b.1.localPlayerHandles ∧ p ∉ x.c.1.localPlayerHandles) ∨
  (p ∉ x.a.1.localPlayerHandles ∧ p ∈ x.b.1.localPlayerHandles ∧ p ∉ x.c.1.localPlayerHandles) ∨
  (p ∉ x.a.1.localPlayerHandles ∧ p ∉ x.b.1.localPlayerHandles ∧ p ∈ x.c.1.localPlayerHandles)

/-- L-triple. After any run of the triple, sessions `a` and `b` agree (after the rollback phase of
their next calls) on the input of every player owned by exactly one of the three sessions — their
own players and the third peer's. -/
theorem triple_agree (x y : Tri) (h0 : TriInv x) (hrun : TStar x y) (nowA nowB : Nat) (sA' sB' : P2P)
    (reqsA reqsB : List Request)
    (hcA : y.a.1.advanceRollbackFrame nowA [] = .ok (sA', reqsA))
    (hcB : y.b.1.advanceRollbackFrame nowB [] = .ok (sB', reqsB)) :
    ∃ (r1A r1B : List Request),
      (reqsA = r1A ∨ ∃ ins, reqsA = r1A ++ [.advance ins]) ∧ (reqsB = r1B ∨ ∃ ins, reqsB = r1B ++ [.advance ins]) ∧
      ∀ p, OwnedByOne y p → p < y.a.1.sync.queues.length → p < y.b.1.sync.queues.length → ∀ f : Nat,
        (f : Int) < y.a.1.sync.currentFrame → (f : Int) < y.b.1.sync.currentFrame →
        (f : Int) ≤ (rget y.a.1.sync.queues p).lastAddedFrame → (f : Int) ≤ (rget y.b.1.sync.queues p).lastAddedFrame →
        (((execReqs y.a.2 r1A).R f).getD p default).1 = (((execReqs y.b.2 r1B).R f).getD p default).1 := by
  obtain ⟨ghA, ghB, ghC, hab, hac, hbc⟩ := TriInv_run x y h0 hrun
  refine agree_of_common y.a.1 y.b.1 sA' sB' ghA ghB y.a.2 y.b.2 nowA nowB reqsA reqsB hab.sa hab.sb (OwnedByOne y) ?_ hcA hcB
  intro p hown f hlA hlB
  rcases hown with ⟨ha, hnb, _⟩ | ⟨hna, hb, _⟩ | ⟨hna, hnb, hc⟩
  · exact (hab.ba p ha hnb).2 f hlB
  · exact ((hab.ab p hb hna).2 f hlA).symm
  · -- the third peer's player: both copies are prefixes of the owner's stream
    have e1 := (hac.ab p hc hna).2 f hlA
    have e2 := (hbc.ab p hc hnb).2 f hlB
    rw [← e1, ← e2]

end Ggrs
