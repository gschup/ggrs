/-
L-timeline: the rollback loop of the session keeps the simulated timeline equal to the inputs
received so far.

Per player, `Tp f` is the value the session used for that player in its LAST simulation of frame
`f` (the column of the timeline). `TL` ties it to the player's queue: a frame whose real input has
arrived either carries that input or lies at/after the queue's `first_incorrect_frame`; a frame
whose input has not arrived carries the fresh prediction, and the queue is in prediction mode so
that the arrival will be checked.
-/
import GgrsModel.Proofs.Predict
import GgrsModel.Proofs.Calls
import GgrsModel.Proofs.Earliest

namespace Ggrs
open InputQueue

def upd {α} (T : Nat → α) (k : Nat) (v : α) : Nat → α := fun f => if f = k then v else T f

theorem upd_self {α} (T : Nat → α) (k : Nat) (v : α) : upd T k v k = v := by simp [upd]
theorem upd_ne {α} (T : Nat → α) (k f : Nat) (v : α) (h : f ≠ k) : upd T k v f = T f := by simp [upd, h]

theorem col_upd {Tp : Nat → Input} {R : Nat → List (Input × InputStatus)} {p : Nat}
    (h : ∀ f, Tp f = ((R f).getD p default).1) (c : Nat) {v : Input} {ins : List (Input × InputStatus)}
    (hv : v = (ins.getD p default).1) (f : Nat) : upd Tp c v f = ((upd R c ins f).getD p default).1 := by
  by_cases hfc : f = c
  · rw [hfc, upd_self, upd_self, hv]
  · rw [upd_ne _ _ _ _ hfc, upd_ne _ _ _ _ hfc]; exact h f

structure TL (pr : Predictor) (q : InputQueue) (vals : List Input) (Tp : Nat → Input) (cur : Int) : Prop where
  col : ∀ f : Nat, (f : Int) < cur →
    (q.firstIncorrectFrame ≠ NULL_FRAME ∧ q.firstIncorrectFrame ≤ (f : Int)) ∨
    (f < vals.length ∧ Tp f = vals.getD f 0) ∨
    (vals.length ≤ f ∧ Tp f = predValue pr vals)
  predicting : (vals.length : Int) < cur → q.lastRequestedFrame ≠ NULL_FRAME → q.prediction.frame ≠ NULL_FRAME
  lastReq : q.lastRequestedFrame = NULL_FRAME ∨ q.lastRequestedFrame = cur - 1

/-- What every `add_input_by_frame` keeps, with the arguments in the order `AddKeeps` wants
(`PTL_addKeeps`). -/
structure PTL (pr : Predictor) (H : Hist) (Tp : Nat → Input) (cur : Int) (q : InputQueue) (vals : List Input) : Prop where
  pt : PT pr q vals H
  tl : TL pr q vals Tp cur
  /-- outside the re-simulation loop every queue has been asked for the newest simulated frame —
  or, as in lockstep mode where nobody ever asks, it holds every simulated frame's real input -/
  asked : 0 < cur → q.lastRequestedFrame ≠ NULL_FRAME ∨ cur ≤ (vals.length : Int)

/-- The disjunction of `TL.col`, for a `first_incorrect_frame` `fi`. -/
def ColOk (pr : Predictor) (fi : Frame) (vals : List Input) (Tp : Nat → Input) (f : Nat) : Prop :=
  (fi ≠ NULL_FRAME ∧ fi ≤ (f : Int)) ∨
  (f < vals.length ∧ Tp f = vals.getD f 0) ∨
  (vals.length ≤ f ∧ Tp f = predValue pr vals)

theorem TL.congr {pr q q2 vals Tp cur} (h : TL pr q vals Tp cur) (e3 : q2.prediction = q.prediction)
    (e4 : q2.firstIncorrectFrame = q.firstIncorrectFrame) (e5 : q2.lastRequestedFrame = q.lastRequestedFrame) :
    TL pr q2 vals Tp cur :=
  ⟨by rw [e4]; exact h.col, by rw [e3, e5]; exact h.predicting, by rw [e5]; exact h.lastReq⟩

theorem PTL_frame (pr : Predictor) (H : Hist) (Tp : Nat → Input) (cur : Int) (q q2 : InputQueue) (vals : List Input)
    (h : PTL pr H Tp cur q vals)
    (e1 : q2.tail = q.tail) (e2 : q2.length = q.length) (e3 : q2.prediction = q.prediction)
    (e4 : q2.firstIncorrectFrame = q.firstIncorrectFrame) (e5 : q2.lastRequestedFrame = q.lastRequestedFrame) :
    PTL pr H Tp cur q2 vals := by
  refine ⟨⟨?_, ?_⟩, h.tl.congr e3 e4 e5, by rw [e5]; exact h.asked⟩
  · have := h.pt.tail; unfold TailOk at this ⊢; rw [e1, e2]; exact this
  · have := h.pt.pred; unfold PredOk at this ⊢; rw [e3, e4, e5]; exact this

theorem PTL.isPredicting {pr H Tp cur q vals} (h : PTL pr H Tp cur q vals) (hlen : (vals.length : Int) < cur) :
    q.prediction.frame ≠ NULL_FRAME := by
  rcases h.asked (Int.lt_of_le_of_lt (Int.natCast_nonneg _) hlen) with a | a
  · exact h.tl.predicting hlen a
  · exact absurd a (Int.not_le.mpr hlen)

theorem addByFrame_fi_keep {q q' : InputQueue} {inp : PlayerInput} {n : Frame}
    (hadd : q.addInputByFrame inp n = .ok q') (hne : q.firstIncorrectFrame ≠ NULL_FRAME) :
    q'.firstIncorrectFrame = q.firstIncorrectFrame := by
  obtain ⟨_, _, _, _, _, _, hnp, hpp⟩ := addByFrame_fields q q' inp n hadd
  by_cases hp : q.prediction.frame = NULL_FRAME
  · exact (hnp hp).2
  · rw [(hpp hp).2.1, if_neg (fun hc => hne hc.1)]

/-- The next input arrives at a predicting queue and is compared with the prediction. A mismatch flags
the frame; otherwise a column entry that carried the fresh prediction is now the real input (frame
`vals.length`) or still the fresh prediction (later frames). -/
theorem ColOk_arrival {pr : Predictor} {q q' : InputQueue} {vals : List Input} {H : Hist} {inp : PlayerInput}
    {n : Frame} {Tp : Nat → Input} {f : Nat} (hpt : PT pr q vals H) (hpred : q.prediction.frame ≠ NULL_FRAME)
    (hadd : q.addInputByFrame inp n = .ok q') (hn : n = (vals.length : Int)) (hf : vals.length ≤ f)
    (hT : Tp f = predValue pr vals) : ColOk pr q'.firstIncorrectFrame (vals ++ [inp.input]) Tp f := by
  obtain ⟨start, _, _, _, _, hfm, hreq⟩ := hpt.pred.resolve_left (fun x => hpred x.1)
  by_cases hfin : q.firstIncorrectFrame = NULL_FRAME
  · by_cases hmis : q.prediction.input = inp.input
    · have hx : inp.input = predValue pr vals := by rw [← (hreq hfin).2, hmis]
      right
      by_cases hfl : f = vals.length
      · left
        subst hfl
        exact ⟨by rw [List.length_append]; exact Nat.lt_succ_self _, by rw [getD_append_eq, hx]; exact hT⟩
      · right
        exact ⟨by rw [List.length_append]; exact Nat.lt_of_le_of_ne hf (Ne.symm hfl),
          by rw [hx, predValue_idem]; exact hT⟩
    · left
      rw [((addByFrame_fields q q' inp n hadd).2.2.2.2.2.2.2 hpred).2.1, if_pos ⟨hfin, hmis⟩, hn]
      exact ⟨natCast_ne_null _, Int.ofNat_le.mpr hf⟩
  · left
    rw [addByFrame_fi_keep hadd hfin]
    rcases hfm with ⟨h0, _⟩ | ⟨g, hg, _, hgl, _⟩
    · exact absurd h0 hfin
    · exact ⟨hfin, by rw [hg]; exact Int.ofNat_le.mpr (Nat.le_trans (Nat.le_of_lt hgl) hf)⟩

theorem PTL_addByFrame (pr : Predictor) (H : Hist) (Tp : Nat → Input) (cur : Int) (q q' : InputQueue)
    (vals : List Input) (inp : PlayerInput) (n : Frame)
    (h : PTL pr H Tp cur q vals) (hadd : q.addInputByFrame inp n = .ok q') (hn : n = (vals.length : Int)) :
    PTL pr H Tp cur q' (vals ++ [inp.input]) := by
  have hlen : ((vals ++ [inp.input]).length : Int) = vals.length + 1 := by simp
  obtain ⟨hlr, _, _, _, _, _, _, hpp⟩ := addByFrame_fields q q' inp n hadd
  refine ⟨PT_addByFrame pr q q' vals H inp n h.pt hn hadd, ⟨?_, ?_, hlr ▸ h.tl.lastReq⟩, ?_⟩
  · intro f hf
    rcases h.tl.col f hf with a | ⟨a, b⟩ | ⟨a, b⟩
    · rw [addByFrame_fi_keep hadd a.1]
      exact Or.inl a
    · exact Or.inr (Or.inl ⟨by rw [List.length_append]; exact Nat.lt_add_right _ a,
        by rw [getD_append_lt _ _ _ a]; exact b⟩)
    · exact ColOk_arrival h.pt (h.isPredicting (Int.lt_of_le_of_lt (Int.ofNat_le.mpr a) hf)) hadd hn a b
  · -- still predicting while something is unverified: the prediction ends only when the
    -- arrival is for the last requested frame, which is frame `cur - 1`
    intro hlt hreq'
    rw [hlen] at hlt
    have hpred := h.isPredicting (Int.lt_trans (Int.lt_succ _) hlt)
    obtain ⟨start, _, hpf, _⟩ := h.pt.pred.resolve_left (fun x => hpred x.1)
    have hex : q.prediction.frame ≠ q.lastRequestedFrame := fun hex => by
      have := h.tl.lastReq.resolve_left (hlr ▸ hreq')
      omega
    rw [(hpp hpred).2.2, if_neg (fun hc => hex hc.1), hpf]
    exact natCast_ne_null (vals.length + 1)
  · intro hc
    rcases h.asked hc with a | a
    · exact Or.inl (hlr ▸ a)
    · exact Or.inr (by rw [hlen]; exact Int.le_trans a (Int.le_add_one (Int.le_refl _)))

theorem PTL_addKeeps (pr : Predictor) (H : Hist) (Tp : Nat → Input) (cur : Int) : AddKeeps (PTL pr H Tp cur) :=
  PTL_addByFrame pr H Tp cur

/-- Everything known about one player's queue: the ring implements the stream `s`, the prediction
bookkeeping matches the history `H`, and the timeline column `Tp` up to (excluding) frame `cur`. -/
structure QI (pr : Predictor) (q : InputQueue) (s : QSpec) (H : Hist) (Tp : Nat → Input) (cur : Int) : Prop where
  ring : Refines q.strip s
  pt : PT pr q s.vals H
  tl : TL pr q s.vals Tp cur

def Asked (q : InputQueue) (cur : Int) : Prop :=
  0 < cur → q.lastRequestedFrame ≠ NULL_FRAME ∨ cur ≤ q.lastAddedFrame + 1

theorem lastAdded_of_QI {pr q s H Tp cur} (h : QI pr q s H Tp cur) : q.lastAddedFrame = (s.vals.length : Int) - 1 :=
  h.ring.lastAdded

theorem QI.pinv {pr q s H Tp cur} (h : QI pr q s H Tp cur) : PInv pr q s H := ⟨h.ring, h.pt⟩

/-- `Asked` is the third field of `PTL`, read off the ring. -/
theorem QI.ptl {pr q s H Tp cur} (h : QI pr q s H Tp cur) (ha : Asked q cur) : PTL pr H Tp cur q s.vals :=
  ⟨h.pt, h.tl, fun hc => (ha hc).imp_right fun a => by rwa [lastAdded_of_QI h, Int.sub_add_cancel] at a⟩

theorem QI.ofPTL {pr q s H Tp cur} (hr : Refines q.strip s) (h : PTL pr H Tp cur q s.vals) :
    QI pr q s H Tp cur ∧ Asked q cur :=
  have hq : QI pr q s H Tp cur := ⟨hr, h.pt, h.tl⟩
  ⟨hq, fun hc => (h.asked hc).imp_right fun a => by rwa [lastAdded_of_QI hq, Int.sub_add_cancel]⟩

theorem QI_new (pr : Predictor) (Tp : Nat → Input) : QI pr InputQueue.new {} [] Tp 0 :=
  ⟨(PInv_new pr).ring, (PInv_new pr).pt,
    ⟨fun f hf => absurd hf (Int.not_lt.mpr (Int.natCast_nonneg f)), fun _ h => absurd rfl h, Or.inl rfl⟩⟩

theorem QI_add (pr : Predictor) (q q' : InputQueue) (s : QSpec) (H : Hist) (Tp : Nat → Input) (cur : Int)
    (uf : Int) (v : Input) (fr : Frame) (h : QI pr q s H Tp cur) (ha : Asked q cur)
    (hadd : q.addInput ⟨uf, v⟩ = .ok (q', fr)) :
    QI pr q' (s.submit uf v).1 H Tp cur ∧ Asked q' cur ∧ fr = (s.submit uf v).2 := by
  obtain ⟨hr, hfr, hp⟩ := (PTL_addKeeps pr H Tp cur).addInput_spec
    (fun q _ _ h => PTL_frame pr H Tp cur q _ _ h rfl rfl rfl rfl rfl) h.ring (h.ptl ha) hadd
  exact ⟨(QI.ofPTL hr hp).1, (QI.ofPTL hr hp).2, hfr⟩

theorem QI_setDelay (pr : Predictor) (q q' : InputQueue) (s : QSpec) (H : Hist) (Tp : Nat → Input) (cur : Int)
    (d : Nat) (fills : List PlayerInput) (h : QI pr q s H Tp cur) (ha : Asked q cur)
    (hset : q.setFrameDelay d = .ok (q', fills)) :
    QI pr q' (s.setDelay d).1 H Tp cur ∧ Asked q' cur ∧ fills = (s.setDelay d).2 := by
  obtain ⟨hr, hfl, hp⟩ := (PTL_addKeeps pr H Tp cur).setFrameDelay_spec
    (fun q _ _ h => PTL_frame pr H Tp cur q _ _ h rfl rfl rfl rfl rfl) h.ring (h.ptl ha) hset
  exact ⟨(QI.ofPTL hr hp).1, (QI.ofPTL hr hp).2, hfl⟩

theorem discard_fields (q q' : InputQueue) (f : Frame) (hd : q.discardConfirmedFrames f = .ok q') :
    q'.prediction = q.prediction ∧ q'.firstIncorrectFrame = q.firstIncorrectFrame ∧
    q'.lastRequestedFrame = q.lastRequestedFrame := by
  obtain ⟨_, _, hc⟩ := discardConfirmedFrames_ok hd
  rcases hc with ⟨_, rfl⟩ | ⟨_, _, rfl⟩ | ⟨_, _, _, rfl⟩
  · exact ⟨rfl, rfl, rfl⟩
  · exact ⟨rfl, rfl, rfl⟩
  · exact ⟨rfl, rfl, rfl⟩

theorem QI_discard (pr : Predictor) (q q' : InputQueue) (s : QSpec) (H : Hist) (Tp : Nat → Input) (cur : Int)
    (f : Frame) (h : QI pr q s H Tp cur) (ha : Asked q cur) (hlt : f < q.lastAddedFrame)
    (hd : q.discardConfirmedFrames f = .ok q') : QI pr q' s H Tp cur ∧ Asked q' cur := by
  have hp := PInv_discard pr q q' s H f h.pinv hlt hd
  obtain ⟨e1, e2, e3⟩ := discard_fields q q' f hd
  have hq : QI pr q' s H Tp cur := ⟨hp.ring, hp.pt, h.tl.congr e1 e2 e3⟩
  refine ⟨hq, ?_⟩
  rw [Asked, e3, lastAdded_of_QI hq, ← lastAdded_of_QI h]
  exact ha

theorem QI_reset (pr : Predictor) (q : InputQueue) (s : QSpec) (H : Hist) (Tp : Nat → Input) (cur r : Int)
    (h : QI pr q s H Tp cur) (hr : r ≤ cur) (hfi : q.firstIncorrectFrame ≠ NULL_FRAME → r ≤ q.firstIncorrectFrame) :
    QI pr q.resetPrediction s [] Tp r := by
  have hp := PInv_reset pr q s H h.pinv
  refine ⟨hp.ring, hp.pt, ⟨?_, fun _ hne => absurd rfl hne, Or.inl rfl⟩⟩
  intro f hf
  rcases h.tl.col f (Int.lt_of_lt_of_le hf hr) with ⟨a, b⟩ | x
  · exact absurd (Int.le_trans (hfi a) b) (Int.not_le.mpr hf)
  · exact Or.inr x

theorem input_firstIncorrect {pr : Predictor} {q q' : InputQueue} {req : Frame} {v : Input} {st : InputStatus}
    (hin : q.input pr req = .ok (q', v, st)) :
    q.firstIncorrectFrame = NULL_FRAME ∧ q'.firstIncorrectFrame = NULL_FRAME := by
  obtain ⟨hfi, _, hcase⟩ := input_ok hin
  rcases hcase with ⟨_, _, _, rfl, _⟩ | ⟨_, _, rfl, _⟩ | ⟨_, rfl, _⟩
  · exact ⟨hfi, hfi⟩
  · exact ⟨hfi, hfi⟩
  · exact ⟨hfi, hfi⟩

theorem TL.col_request {pr q vals Tp} {cur : Nat} {v : Input} (h : TL pr q vals Tp cur)
    (hfi : q.firstIncorrectFrame = NULL_FRAME)
    (hv : (cur < vals.length ∧ v = vals.getD cur 0) ∨ (vals.length ≤ cur ∧ v = predValue pr vals))
    (fi : Frame) (f : Nat) (hf : (f : Int) < (cur : Int) + 1) : ColOk pr fi vals (upd Tp cur v) f := by
  by_cases hfc : f = cur
  · subst hfc
    rw [ColOk, upd_self]
    exact Or.inr hv
  · rw [ColOk, upd_ne _ _ _ _ hfc]
    have hlt : (f : Int) < cur := Int.lt_iff_le_and_ne.mpr ⟨Int.le_of_lt_add_one hf, fun e => hfc (Int.ofNat_inj.mp e)⟩
    exact Or.inr ((h.col f hlt).resolve_left fun a => a.1 hfi)

/-- One simulated frame for one player: the queue is asked for frame `cur`, the answer becomes the
column entry for `cur`, and the frame counter moves on. -/
theorem QI_request (pr : Predictor) (q q' : InputQueue) (s : QSpec) (H : Hist) (Tp : Nat → Input) (cur : Nat)
    (v : Input) (st : InputStatus) (h : QI pr q s H Tp cur)
    (hin : q.input pr (cur : Int) = .ok (q', v, st)) :
    ∃ H', QI pr q' s H' (upd Tp cur v) ((cur : Int) + 1) ∧ Asked q' ((cur : Int) + 1) ∧
      q'.firstIncorrectFrame = NULL_FRAME ∧
      ((st = .confirmed ∧ cur < s.vals.length ∧ v = s.vals.getD cur 0) ∨
       (st = .predicted ∧ s.vals.length ≤ cur ∧ v = predValue pr s.vals)) := by
  obtain ⟨hfi, hfi'⟩ := input_firstIncorrect hin
  obtain ⟨hlr, hres⟩ := PInv_input pr q q' s H (cur : Int) v st h.pinv (Int.natCast_nonneg cur)
    (h.tl.lastReq.imp_right fun h0 => Int.le_trans (Int.le_of_eq h0) (Int.sub_le_self _ (by decide))) hin
  have hasked : Asked q' ((cur : Int) + 1) := fun _ => Or.inl (hlr ▸ natCast_ne_null cur)
  have hlast : q'.lastRequestedFrame = NULL_FRAME ∨ q'.lastRequestedFrame = (cur : Int) + 1 - 1 :=
    Or.inr (by rw [hlr, Int.add_sub_cancel])
  rcases hres with ⟨hst, _, hlt, hv, hp'⟩ | ⟨hst, hge, hv, hp'⟩
  · have hv' : cur < s.vals.length ∧ v = s.vals.getD cur 0 := ⟨Int.ofNat_lt.mp hlt, by rw [hv, Int.toNat_natCast]⟩
    exact ⟨H, ⟨hp'.ring, hp'.pt, h.tl.col_request hfi (Or.inl hv') _,
      fun hlen => absurd hlt (Int.not_lt.mpr (Int.le_of_lt_add_one hlen)), hlast⟩, hasked, hfi', Or.inl ⟨hst, hv'⟩⟩
  · have hv' : s.vals.length ≤ cur ∧ v = predValue pr s.vals := ⟨Int.ofNat_le.mp hge, hv⟩
    refine ⟨H ++ [((cur : Int), v)], ⟨hp'.ring, hp'.pt, h.tl.col_request hfi (Or.inr hv') _, fun _ _ => ?_, hlast⟩,
      hasked, hfi', Or.inr ⟨hst, hv'⟩⟩
    -- the history now holds a prediction for a frame beyond the stream: the queue is predicting
    rcases hp'.pt.pred with ⟨_, _, hH⟩ | ⟨start, _, hpf, _⟩
    · exact absurd (hH ((cur : Int), v) (List.mem_append_right _ List.mem_cons_self)).2.1 (Int.not_lt.mpr hge)
    · exact hpf ▸ natCast_ne_null _

/-- With no player marked disconnected, `synchronized_inputs` is one `input` call per queue, in
handle order; nothing else is touched. -/
theorem syncLoop_rel (pr : Predictor) (cur : Frame) : ∀ (statuses : List ConnStatus) (i : Nat)
    (qs : List InputQueue) (acc : List (Input × InputStatus)) (qs' : List InputQueue)
    (out : List (Input × InputStatus)),
    (∀ cs ∈ statuses, cs.disconnected = false) →
    SyncLayer.synchronizedInputsLoop pr cur statuses i qs acc = .ok (qs', out) →
    qs'.length = qs.length ∧ ∃ vs : List (Input × InputStatus), out = acc.reverse ++ vs ∧
      vs.length = statuses.length ∧
      (∀ p, (p < i ∨ i + statuses.length ≤ p) → rget qs' p = rget qs p) ∧
      (∀ k, k < statuses.length → i + k < qs.length ∧
        (rget qs (i + k)).input pr cur = .ok (rget qs' (i + k), (vs.getD k default).1, (vs.getD k default).2)) := by
  intro statuses
  induction statuses with
  | nil =>
    intro i qs acc qs' out _ h
    simp only [SyncLayer.synchronizedInputsLoop] at h
    cases h
    exact ⟨rfl, [], by simp, rfl, fun _ _ => rfl, fun k hk => by simp at hk⟩
  | cons cs rest ih =>
    intro i qs acc qs' out hconn h
    obtain ⟨qs1, x, h, hcase⟩ := SyncLayer.synchronizedInputsLoop_cons_ok h
    obtain ⟨_, hi', q, hin, rfl⟩ := hcase.resolve_left fun hs =>
      Bool.noConfusion ((hconn cs List.mem_cons_self).symm.trans hs.1.1)
    obtain ⟨hlen, vs, hout, hvl, hsame, hstep⟩ := ih (i + 1) (rset qs i q) (x :: acc) qs' out
      (fun c hc => hconn c (List.mem_cons_of_mem _ hc)) h
    rw [rset_length] at hlen
    refine ⟨hlen, x :: vs, by rw [hout, List.reverse_cons, List.append_assoc]; rfl, congrArg (· + 1) hvl, ?_, ?_⟩
    · intro p hp
      simp only [List.length_cons] at hp
      have : p ≠ i := by omega
      rw [hsame p (by omega), rget_rset_ne _ _ _ _ (fun h => this h.symm)]
    · intro k hk
      cases k with
      | zero =>
        refine ⟨hi', ?_⟩
        rw [Nat.add_zero, List.getD_cons_zero, hsame i (Or.inl (Nat.lt_succ_self i)), rget_rset_eq _ _ _ hi']
        exact hin
      | succ k =>
        obtain ⟨hb, hs⟩ := hstep k (Nat.lt_of_succ_lt_succ hk)
        rw [rset_length, Nat.add_assoc, Nat.add_comm 1 k] at hb
        rw [Nat.add_assoc, Nat.add_comm 1 k,
          rget_rset_ne _ _ _ _ (Nat.ne_of_lt (Nat.lt_add_of_pos_right (Nat.succ_pos k)))] at hs
        exact ⟨hb, hs⟩

/-- Per-player ghost state of a session: stream specification, prediction history and timeline
column of every player. -/
structure Ghost where
  specs : Nat → QSpec
  hists : Nat → Hist
  T : Nat → Nat → Input

def AllQI (pr : Predictor) (qs : List InputQueue) (gh : Ghost) (cur : Int) : Prop :=
  ∀ p, p < qs.length → QI pr (rget qs p) (gh.specs p) (gh.hists p) (gh.T p) cur

def AllAsked (qs : List InputQueue) (cur : Int) : Prop := ∀ p, p < qs.length → Asked (rget qs p) cur

def InputsOk (pr : Predictor) (gh : Ghost) (cur : Nat) (vs : List (Input × InputStatus)) : Prop :=
  ∀ p, p < vs.length →
    (((vs.getD p default).2 = .confirmed ∧ cur < (gh.specs p).vals.length ∧
        (vs.getD p default).1 = (gh.specs p).vals.getD cur 0) ∨
     ((vs.getD p default).2 = .predicted ∧ (gh.specs p).vals.length ≤ cur ∧
        (vs.getD p default).1 = predValue pr (gh.specs p).vals))

/-- The invariant of the sync layer of a session in which nobody is marked disconnected (`conn`;
`SyncInvD` in `Proofs/DropSync.lean` is the one with disconnects): every queue against its ghost. -/
structure SyncInv (pr : Predictor) (sy : SyncLayer) (statuses : List ConnStatus) (gh : Ghost) : Prop where
  cur : 0 ≤ sy.currentFrame
  nq : statuses.length = sy.queues.length
  conn : ∀ cs ∈ statuses, cs.disconnected = false
  all : AllQI pr sy.queues gh sy.currentFrame

/-- Timeline agreement: every frame below `cur` whose input has arrived carries that input. -/
def TimelineRight (sy : SyncLayer) (gh : Ghost) : Prop :=
  ∀ p, p < sy.queues.length → ∀ f : Nat, (f : Int) < sy.currentFrame → f < (gh.specs p).vals.length →
    gh.T p f = (gh.specs p).vals.getD f 0

theorem timelineRight_of_clean (pr : Predictor) (sy : SyncLayer) (statuses : List ConnStatus) (gh : Ghost)
    (h : SyncInv pr sy statuses gh)
    (hclean : ∀ p, p < sy.queues.length → (rget sy.queues p).firstIncorrectFrame = NULL_FRAME) :
    TimelineRight sy gh := by
  intro p hp f hf hlen
  rcases (h.all p hp).tl.col f hf with ⟨a, _⟩ | ⟨_, b⟩ | ⟨a, _⟩
  · exact absurd (hclean p hp) a
  · exact b
  · exact absurd hlen (Nat.not_lt.mpr a)

theorem SyncInv_simulate (pr : Predictor) (sy sy' : SyncLayer) (statuses : List ConnStatus) (gh : Ghost)
    (inputs : List (Input × InputStatus))
    (h : SyncInv pr sy statuses gh) (hs : sy.synchronizedInputs pr statuses = .ok (sy', inputs)) :
    ∃ (c : Nat) (gh' : Ghost), sy.currentFrame = (c : Int) ∧
      sy'.advanceFrame.currentFrame = sy.currentFrame + 1 ∧
      sy'.queues.length = sy.queues.length ∧ inputs.length = sy.queues.length ∧
      sy'.cells = sy.cells ∧ sy'.lastSavedFrame = sy.lastSavedFrame ∧ sy'.maxPrediction = sy.maxPrediction ∧
      sy'.lastConfirmedFrame = sy.lastConfirmedFrame ∧ sy'.currentFrame = sy.currentFrame ∧
      InputsOk pr gh c inputs ∧ gh'.specs = gh.specs ∧
      (∀ p, p < sy.queues.length → gh'.T p = upd (gh.T p) c (inputs.getD p default).1) ∧
      SyncInv pr sy'.advanceFrame statuses gh' ∧ AllAsked sy'.advanceFrame.queues sy'.advanceFrame.currentFrame ∧
      (∀ p, p < sy'.queues.length → (rget sy'.advanceFrame.queues p).firstIncorrectFrame = NULL_FRAME) := by
  obtain ⟨c, hc⟩ : ∃ c : Nat, sy.currentFrame = (c : Int) := ⟨_, (Int.toNat_of_nonneg h.cur).symm⟩
  obtain ⟨qs, hloop, rfl⟩ := SyncLayer.synchronizedInputs_ok hs
  rw [hc] at hloop
  obtain ⟨hl, vs, hout, hvl, _, hstep⟩ := syncLoop_rel pr (c : Int) statuses 0 sy.queues [] qs inputs h.conn hloop
  simp only [List.reverse_nil, List.nil_append] at hout
  subst hout
  have hil : inputs.length = sy.queues.length := hvl.trans h.nq
  have hreq := fun p (hp : p < sy.queues.length) =>
    QI_request pr (rget sy.queues p) (rget qs p) _ _ _ c (inputs.getD p default).1 (inputs.getD p default).2
      (hc ▸ h.all p hp) (by have := (hstep p (h.nq ▸ hp)).2; rwa [Nat.zero_add] at this)
  refine ⟨c, ⟨gh.specs, fun p => if hp : p < sy.queues.length then (hreq p hp).choose else gh.hists p,
    fun p => if p < sy.queues.length then upd (gh.T p) c (inputs.getD p default).1 else gh.T p⟩,
    hc, rfl, hl, hil, rfl, rfl, rfl, rfl, rfl, fun p hp => (hreq p (hil ▸ hp)).choose_spec.2.2.2, rfl,
    fun p hp => if_pos hp, ⟨Int.add_nonneg h.cur (by decide), hl ▸ h.nq, h.conn, ?_⟩, ?_, ?_⟩
  · intro p hp
    have hp' : p < sy.queues.length := hl ▸ hp
    show QI pr (rget qs p) _ _ _ (sy.currentFrame + 1)
    simp only [hp', dite_true, if_true, hc]
    exact (hreq p hp').choose_spec.1
  · intro p hp
    show Asked (rget qs p) (sy.currentFrame + 1)
    rw [hc]
    exact (hreq p (hl ▸ hp)).choose_spec.2.1
  · intro p hp
    exact (hreq p (hl ▸ hp)).choose_spec.2.2.1

/-- The game's frame counter and, per frame, the inputs of its LAST simulation of that frame: what the
AdvanceFrame requests carried, where `Ghost.T` is what `synchronized_inputs` returned; `TInv.rows` says
they agree. The game's state and saved cells are left out: the session invariants do not depend on
them. `GS` (`Proofs/Replay.lean`) is the whole game, and `execGs_cur_R` (`Proofs/World.lean`) says that
its `cur` and `R` move as this record does. -/
structure TLState where
  cur : Int
  R : Nat → List (Input × InputStatus)

def execReq (t : TLState) : Request → TLState
  | .save _ => t
  | .load f => { t with cur := f }
  | .advance ins => { cur := t.cur + 1, R := upd t.R t.cur.toNat ins }

def execReqs (t : TLState) (rs : List Request) : TLState := rs.foldl execReq t

theorem execReqs_append (t : TLState) (a b : List Request) : execReqs t (a ++ b) = execReqs (execReqs t a) b := by
  simp [execReqs, List.foldl_append]

theorem execReqs_saves (t : TLState) : ∀ (mid : List Request), (∀ r ∈ mid, ∃ f, r = .save f) → execReqs t mid = t
  | [], _ => rfl
  | r :: rest, h => by
    obtain ⟨f, rfl⟩ := h r List.mem_cons_self
    exact execReqs_saves t rest fun r hr => h r (List.mem_cons_of_mem _ hr)

/-- The session invariant together with the game-side view: executing the requests issued so far
from the game state `t0` puts the game at the session's frame, and the ghost columns are the
first components of the game's rows. -/
structure TInv (pr : Predictor) (sy : SyncLayer) (statuses : List ConnStatus) (gh : Ghost) (t0 : TLState)
    (reqs : List Request) : Prop where
  sync : SyncInv pr sy statuses gh
  exec : (execReqs t0 reqs).cur = sy.currentFrame
  rows : ∀ p, p < sy.queues.length → ∀ f, gh.T p f = (((execReqs t0 reqs).R f).getD p default).1

theorem SyncInv_congr {pr sy sy2 statuses gh} (h : SyncInv pr sy statuses gh) (hq : sy2.queues = sy.queues)
    (hc : sy2.currentFrame = sy.currentFrame) : SyncInv pr sy2 statuses gh :=
  ⟨by rw [hc]; exact h.cur, by rw [hq]; exact h.nq, h.conn, by rw [hq, hc]; exact h.all⟩

theorem TInv.congr {pr sy sy2 statuses gh t0 reqs reqs2} (h : TInv pr sy statuses gh t0 reqs)
    (hq : sy2.queues = sy.queues) (hc : sy2.currentFrame = sy.currentFrame)
    (he : execReqs t0 reqs2 = execReqs t0 reqs) : TInv pr sy2 statuses gh t0 reqs2 :=
  ⟨SyncInv_congr h.sync hq hc, by rw [he, hc]; exact h.exec, by rw [he, hq]; exact h.rows⟩

/-- `mid` is whatever the caller appends between computing the inputs and the AdvanceFrame request
(nothing or a SaveGameState). -/
theorem TInv_simulate (pr : Predictor) (sy sy' sy2 : SyncLayer) (statuses : List ConnStatus) (gh : Ghost)
    (t0 : TLState) (reqs mid : List Request) (inputs : List (Input × InputStatus))
    (h : TInv pr sy statuses gh t0 reqs) (hs : sy.synchronizedInputs pr statuses = .ok (sy', inputs))
    (hmid : ∀ r ∈ mid, ∃ f, r = .save f)
    (hq : sy2.queues = sy'.queues) (hc : sy2.currentFrame = sy'.currentFrame) :
    ∃ (c : Nat) (gh' : Ghost), sy.currentFrame = (c : Int) ∧ InputsOk pr gh c inputs ∧ gh'.specs = gh.specs ∧
      TInv pr sy2.advanceFrame statuses gh' t0 (reqs ++ mid ++ [.advance inputs]) ∧
      sy2.advanceFrame.currentFrame = sy.currentFrame + 1 ∧
      AllAsked sy2.advanceFrame.queues sy2.advanceFrame.currentFrame ∧
      (∀ p, p < sy2.advanceFrame.queues.length → (rget sy2.advanceFrame.queues p).firstIncorrectFrame = NULL_FRAME) := by
  obtain ⟨c, gh', hc0, _, hl, _, _, _, _, _, hcur', hok, hsp, hT, hinv, hask, hclean⟩ :=
    SyncInv_simulate pr sy sy' statuses gh inputs h.sync hs
  have hexec : execReqs t0 (reqs ++ mid ++ [.advance inputs]) =
      { cur := (execReqs t0 reqs).cur + 1, R := upd (execReqs t0 reqs).R (execReqs t0 reqs).cur.toNat inputs } := by
    rw [execReqs_append, execReqs_append, execReqs_saves _ mid hmid]
    rfl
  have hq2 : sy2.advanceFrame.queues = sy'.advanceFrame.queues := hq
  have hc2 : sy2.advanceFrame.currentFrame = sy'.advanceFrame.currentFrame := congrArg (· + 1) hc
  refine ⟨c, gh', hc0, hok, hsp, ⟨SyncInv_congr hinv hq2 hc2, ?_, ?_⟩, hc2.trans (congrArg (· + 1) hcur'),
    by rw [hq2, hc2]; exact hask, by rw [hq2]; exact hclean⟩
  · rw [hexec, hc2]
    exact congrArg (· + 1) (h.exec.trans hcur'.symm)
  · intro p hp f
    have hp' : p < sy.queues.length := by rw [← hl, ← hq]; exact hp
    rw [hexec, hT p hp']
    show upd (gh.T p) c _ f = ((upd (execReqs t0 reqs).R (execReqs t0 reqs).cur.toNat inputs f).getD p default).1
    rw [h.exec, hc0, Int.toNat_natCast]
    exact col_upd (h.rows p hp') c rfl f

/-- The re-simulation loop of `adjust_gamestate`: `n` frames, each one `synchronized_inputs`, an
optional save, `advance_frame`. -/
theorem resim_loop (s : P2P) (mc : Frame) (t0 : TLState) : ∀ (n i : Nat) (sy : SyncLayer) (reqs : List Request)
    (sy' : SyncLayer) (reqs' : List Request) (gh : Ghost),
    TInv s.pred sy s.localConnectStatus gh t0 reqs →
    P2P.adjustGamestate.loop s mc n i sy reqs = .ok (sy', reqs') →
    ∃ gh' : Ghost, TInv s.pred sy' s.localConnectStatus gh' t0 reqs' ∧ gh'.specs = gh.specs ∧
      sy'.currentFrame = sy.currentFrame + n ∧ sy'.queues.length = sy.queues.length ∧
      (n > 0 → AllAsked sy'.queues sy'.currentFrame ∧
        ∀ p, p < sy'.queues.length → (rget sy'.queues p).firstIncorrectFrame = NULL_FRAME) := by
  intro n
  induction n with
  | zero =>
    intro i sy reqs sy' reqs' gh h hl
    simp only [P2P.adjustGamestate.loop] at hl
    cases hl
    exact ⟨gh, h, rfl, (Int.add_zero _).symm, rfl, fun h0 => absurd h0 (Nat.lt_irrefl 0)⟩
  | succ k ih =>
    intro i sy reqs sy' reqs' gh h hl
    obtain ⟨sy1, inputs, sy2, reqs2, hsim, hsave, hl⟩ := P2P.adjustGamestate_loop_succ_ok hl
    -- whatever the save branch did, it appended at most one SaveGameState and kept queues and frame
    obtain ⟨mid, rfl, hmidsave, hq2, hc2⟩ : ∃ mid : List Request, reqs2 = reqs ++ mid ∧
        (∀ r ∈ mid, ∃ f, r = .save f) ∧ sy2.queues = sy1.queues ∧ sy2.currentFrame = sy1.currentFrame := by
      rcases P2P.resimSave_ok hsave with ⟨_, r, hs, rfl⟩ | ⟨_, rfl, rfl⟩
      · obtain ⟨_, rfl, rfl⟩ := SyncLayer.saveCurrentState_ok hs
        exact ⟨[_], rfl, fun r hr => ⟨_, List.mem_singleton.mp hr⟩, rfl, rfl⟩
      · exact ⟨[], (List.append_nil _).symm, fun r hr => absurd hr List.not_mem_nil, rfl, rfl⟩
    obtain ⟨c, gh1, _, _, hsp1, hinv1, hcur1, hask1, hclean1⟩ :=
      TInv_simulate s.pred sy sy1 sy2 s.localConnectStatus gh t0 reqs mid inputs h hsim hmidsave hq2 hc2
    obtain ⟨gh', hinv', hsp', hcur', hql', hrest⟩ := ih (i + 1) sy2.advanceFrame _ sy' reqs' gh1 hinv1 hl
    have hq1len : sy2.advanceFrame.queues.length = sy.queues.length := hinv1.sync.nq.symm.trans h.sync.nq
    refine ⟨gh', hinv', hsp'.trans hsp1, by rw [hcur', hcur1, Int.add_assoc, Int.add_comm 1, Int.natCast_succ],
      hql'.trans hq1len, fun _ => ?_⟩
    cases k with
    | succ k => exact hrest (Nat.succ_pos k)
    | zero =>
      simp only [P2P.adjustGamestate.loop] at hl
      cases hl
      exact ⟨hask1, hclean1⟩

theorem rget_map_lt {α β} [Inhabited α] [Inhabited β] (f : α → β) (l : List α) (p : Nat) (hp : p < l.length) :
    rget (l.map f) p = f (rget l p) := by
  simp [rget, List.getD_eq_getElem?_getD, List.getElem?_map, List.getElem?_eq_getElem hp]

theorem mem_of_rget {α} [Inhabited α] (l : List α) (p : Nat) (hp : p < l.length) : rget l p ∈ l := by
  simp only [rget, List.getD_eq_getElem?_getD, List.getElem?_eq_getElem hp, Option.getD_some]
  exact List.getElem_mem hp

theorem TInv_load {pr : Predictor} {sy : SyncLayer} {statuses : List ConnStatus} {gh : Ghost} {t0 : TLState}
    {reqs : List Request} {r : Frame} (h : TInv pr sy statuses gh t0 reqs) (h0 : 0 ≤ r) (hr : r ≤ sy.currentFrame)
    (hfi : ∀ p, p < sy.queues.length → (rget sy.queues p).firstIncorrectFrame ≠ NULL_FRAME →
      r ≤ (rget sy.queues p).firstIncorrectFrame) :
    TInv pr ({ sy with currentFrame := r } : SyncLayer).resetPrediction statuses { gh with hists := fun _ => [] } t0
      (reqs ++ [.load r]) := by
  have hlen : ({ sy with currentFrame := r } : SyncLayer).resetPrediction.queues.length = sy.queues.length :=
    List.length_map _
  refine ⟨⟨h0, h.sync.nq.trans hlen.symm, h.sync.conn, fun p hp => ?_⟩, ?_, fun p hp f => ?_⟩
  · have hp := Nat.lt_of_lt_of_eq hp hlen
    show QI pr (rget (sy.queues.map InputQueue.resetPrediction) p) _ _ _ r
    rw [rget_map_lt _ _ _ hp]
    exact QI_reset pr _ _ _ _ _ r (h.sync.all p hp) hr (hfi p hp)
  · rw [execReqs_append]; rfl
  · rw [execReqs_append]
    exact h.rows p (Nat.lt_of_lt_of_eq hp hlen) f

/-- **`adjust_gamestate`.** Rolling back to a frame at or before every queue's first incorrect
frame and re-simulating up to the frame the session was at restores the invariant with every
`first_incorrect_frame` cleared; the game, executing the requests, ends at the same frame. -/
theorem adjust_spec (s s' : P2P) (firstIncorrect mc : Frame) (t0 : TLState) (reqs reqs' : List Request)
    (gh : Ghost) (h : TInv s.pred s.sync s.localConnectStatus gh t0 reqs)
    (hfi : ∀ p, p < s.sync.queues.length → (rget s.sync.queues p).firstIncorrectFrame ≠ NULL_FRAME →
      firstIncorrect ≤ (rget s.sync.queues p).firstIncorrectFrame)
    (hadj : s.adjustGamestate firstIncorrect mc reqs = .ok (s', reqs')) :
    ∃ gh' : Ghost, TInv s.pred s'.sync s.localConnectStatus gh' t0 reqs' ∧ gh'.specs = gh.specs ∧
      s' = { s with sync := s'.sync } ∧ s'.sync.currentFrame = s.sync.currentFrame ∧
      s'.sync.queues.length = s.sync.queues.length ∧
      AllAsked s'.sync.queues s'.sync.currentFrame ∧
      (∀ p, p < s'.sync.queues.length → (rget s'.sync.queues p).firstIncorrectFrame = NULL_FRAME) := by
  obtain ⟨r, sy1, req, sy2, _, hle, hload, hloop, hcur2, rfl⟩ := P2P.adjustGamestate_ok hadj
  obtain ⟨h0, hlt, _, _, rfl, rfl⟩ := SyncLayer.loadFrame_ok hload
  have hinv1 := TInv_load h h0 (Int.le_of_lt hlt) fun p hp hne => Int.le_trans hle (hfi p hp hne)
  obtain ⟨gh', hinv', hsp', _, hql', hrest⟩ := resim_loop s mc t0 _ 0 _ _ sy2 reqs' _ hinv1 hloop
  obtain ⟨hask, hclean⟩ := hrest (Int.lt_toNat.mpr (Int.sub_pos.mpr hlt))
  exact ⟨gh', hinv', hsp', rfl, hcur2, hql'.trans (List.length_map _), hask, hclean⟩

structure Settled (s s' : P2P) (gh gh' : Ghost) (t0 : TLState) (reqs' : List Request) : Prop where
  inv : TInv s.pred s'.sync s.localConnectStatus gh' t0 reqs'
  specs : gh'.specs = gh.specs
  cur : s'.sync.currentFrame = s.sync.currentFrame
  nq : s'.sync.queues.length = s.sync.queues.length
  asked : AllAsked s'.sync.queues s'.sync.currentFrame
  clean : ∀ p, p < s'.sync.queues.length → (rget s'.sync.queues p).firstIncorrectFrame = NULL_FRAME
  pred : s'.pred = s.pred
  statuses : s'.localConnectStatus = s.localConnectStatus
  sparse : s'.sparse = s.sparse
  rest : s'.handles = s.handles ∧ s'.maxPrediction = s.maxPrediction ∧
    s'.pendingLocalInputs = s.pendingLocalInputs ∧ s'.numPlayers = s.numPlayers

/-- `adjust_gamestate` settles the session, whatever `disconnect_frame` is set to afterwards:
`rollbackIfNeeded` clears it (`df := NULL_FRAME`), `saveAfterRollback` leaves it alone. -/
theorem adjust_settled (s s' : P2P) (firstIncorrect mc df : Frame) (t0 : TLState) (reqs reqs' : List Request)
    (gh : Ghost) (h : TInv s.pred s.sync s.localConnectStatus gh t0 reqs)
    (hfi : ∀ p, p < s.sync.queues.length → (rget s.sync.queues p).firstIncorrectFrame ≠ NULL_FRAME →
      firstIncorrect ≤ (rget s.sync.queues p).firstIncorrectFrame)
    (hadj : s.adjustGamestate firstIncorrect mc reqs = .ok (s', reqs')) :
    ∃ gh', Settled s { s' with disconnectFrame := df } gh gh' t0 reqs' := by
  obtain ⟨gh', hinv, hsp, hs', hcur, hnq, hask, hclean⟩ := adjust_spec s s' firstIncorrect mc t0 reqs reqs' gh h hfi hadj
  obtain ⟨sy, rfl⟩ : ∃ sy, s' = { s with sync := sy } := ⟨_, hs'⟩
  exact ⟨gh', hinv, hsp, hcur, hnq, hask, hclean, rfl, rfl, rfl, rfl, rfl, rfl, rfl⟩

theorem Settled.trans {s s1 s2 : P2P} {gh gh1 gh2 : Ghost} {t0 : TLState} {reqs1 reqs2 : List Request}
    (h1 : Settled s s1 gh gh1 t0 reqs1) (h2 : Settled s1 s2 gh1 gh2 t0 reqs2) : Settled s s2 gh gh2 t0 reqs2 :=
  ⟨by rw [← h1.pred, ← h1.statuses]; exact h2.inv, h2.specs.trans h1.specs, h2.cur.trans h1.cur, h2.nq.trans h1.nq,
    h2.asked, h2.clean, h2.pred.trans h1.pred, h2.statuses.trans h1.statuses, h2.sparse.trans h1.sparse,
    h2.rest.1.trans h1.rest.1, h2.rest.2.1.trans h1.rest.2.1, h2.rest.2.2.1.trans h1.rest.2.2.1,
    h2.rest.2.2.2.trans h1.rest.2.2.2⟩

theorem Settled.tinv {s s' : P2P} {gh gh' : Ghost} {t0 : TLState} {reqs' : List Request}
    (h : Settled s s' gh gh' t0 reqs') : TInv s'.pred s'.sync s'.localConnectStatus gh' t0 reqs' := by
  rw [h.pred, h.statuses]; exact h.inv

theorem Settled_save (s s1 : P2P) (gh gh1 : Ghost) (t0 : TLState) (reqs1 : List Request) (sy : SyncLayer) (r : Request)
    (h : Settled s s1 gh gh1 t0 reqs1) (hsv : s1.sync.saveCurrentState = .ok (sy, r)) :
    Settled s { s1 with sync := sy } gh gh1 t0 (reqs1 ++ [r]) := by
  obtain ⟨_, rfl, rfl⟩ := SyncLayer.saveCurrentState_ok hsv
  exact ⟨h.inv.congr rfl rfl (execReqs_append _ _ _), h.specs, h.cur, h.nq, h.asked, h.clean, h.pred, h.statuses,
    h.sparse, h.rest⟩

theorem rollbackIfNeeded_spec (s s' : P2P) (confirmed : Frame) (t0 : TLState) (reqs reqs' : List Request)
    (gh : Ghost) (h : TInv s.pred s.sync s.localConnectStatus gh t0 reqs)
    (hask : AllAsked s.sync.queues s.sync.currentFrame)
    (hrb : s.rollbackIfNeeded confirmed reqs = .ok (s', reqs')) :
    ∃ gh', Settled s s' gh gh' t0 reqs' := by
  have hes := SyncLayer.earliest_spec s.sync.queues s.disconnectFrame
  rw [← SyncLayer.checkSimulationConsistency_eq] at hes
  rcases P2P.rollbackIfNeeded_ok hrb with ⟨h0, rfl, rfl⟩ | ⟨hne, s1, hadj, rfl⟩
  · exact ⟨gh, h, rfl, rfl, rfl, hask, fun p hp => (hes.1.mp h0).2 _ (mem_of_rget _ _ hp), rfl, rfl, rfl, rfl, rfl,
      rfl, rfl⟩
  · exact adjust_settled s s1 _ confirmed _ t0 reqs reqs' gh h
      (fun p hp hne' => (hes.2 hne).2 _ (mem_of_rget _ _ hp) hne') hadj

theorem saveAfterRollback_spec (s s1 s' : P2P) (confirmed : Frame) (t0 : TLState) (reqs1 reqs' : List Request)
    (gh gh1 : Ghost) (h : Settled s s1 gh gh1 t0 reqs1)
    (hsv : s1.saveAfterRollback confirmed reqs1 = .ok (s', reqs')) :
    ∃ gh', Settled s s' gh gh' t0 reqs' := by
  rcases P2P.saveAfterRollback_ok hsv with ⟨_, _, rfl, rfl⟩ | ⟨_, sy, r, hs, rfl, rfl⟩ | ⟨_, _, _, hadj⟩
  · exact ⟨gh1, h⟩
  · exact ⟨gh1, Settled_save s s1 gh gh1 t0 reqs1 sy r h hs⟩
  · -- `df := s'.disconnectFrame`: `{ s' with disconnectFrame := s'.disconnectFrame }` is `s'` by structure eta
    obtain ⟨gh2, h12⟩ := adjust_settled s1 s' _ confirmed s'.disconnectFrame t0 reqs1 reqs' gh1 h.tinv
      (fun p hp hne' => absurd (h.clean p hp) hne') hadj
    exact ⟨gh2, h.trans h12⟩

/-- **`handle_rollback_and_save`.** After it, every queue is clean, so the timeline agrees with
every input received so far (`timelineRight_of_clean`). -/
theorem handleRollbackAndSave_spec (s s' : P2P) (confirmed : Frame) (t0 : TLState) (reqs reqs' : List Request)
    (gh : Ghost) (h : TInv s.pred s.sync s.localConnectStatus gh t0 reqs)
    (hask : AllAsked s.sync.queues s.sync.currentFrame)
    (hrs : s.handleRollbackAndSave confirmed reqs = .ok (s', reqs')) :
    ∃ gh', Settled s s' gh gh' t0 reqs' ∧ TimelineRight s'.sync gh' := by
  obtain ⟨s1, reqs1, hrb, hsv⟩ := P2P.handleRollbackAndSave_ok hrs
  obtain ⟨gh1, h1⟩ := rollbackIfNeeded_spec s s1 confirmed t0 reqs reqs1 gh h hask hrb
  obtain ⟨gh', h'⟩ := saveAfterRollback_spec s s1 s' confirmed t0 reqs1 reqs' gh gh1 h1 hsv
  exact ⟨gh', h', timelineRight_of_clean s.pred s'.sync s.localConnectStatus gh' h'.inv.sync h'.clean⟩

end Ggrs
