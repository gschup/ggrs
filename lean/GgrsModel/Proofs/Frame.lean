/-
Frame lemmas: the parts of `P2PSession::advance_frame` that only talk to the network (outgoing
input queue, endpoints, spectators) leave the sync layer, the connection statuses and the
configuration alone.
-/
import GgrsModel.Proofs.Calls

namespace Ggrs
namespace P2P

/-- The fields the rollback core reads are the same in both states. -/
structure SameCore (s s' : P2P) : Prop where
  sync : s'.sync = s.sync
  pred : s'.pred = s.pred
  statuses : s'.localConnectStatus = s.localConnectStatus
  sparse : s'.sparse = s.sparse
  maxPrediction : s'.maxPrediction = s.maxPrediction
  handles : s'.handles = s.handles
  pending : s'.pendingLocalInputs = s.pendingLocalInputs
  numPlayers : s'.numPlayers = s.numPlayers
  disconnectFrame : s'.disconnectFrame = s.disconnectFrame

theorem SameCore.refl (s : P2P) : SameCore s s := ⟨rfl, rfl, rfl, rfl, rfl, rfl, rfl, rfl, rfl⟩

theorem SameCore.trans {a b c : P2P} (h1 : SameCore a b) (h2 : SameCore b c) : SameCore a c :=
  ⟨h2.sync.trans h1.sync, h2.pred.trans h1.pred, h2.statuses.trans h1.statuses, h2.sparse.trans h1.sparse,
   h2.maxPrediction.trans h1.maxPrediction, h2.handles.trans h1.handles, h2.pending.trans h1.pending,
   h2.numPlayers.trans h1.numPlayers, h2.disconnectFrame.trans h1.disconnectFrame⟩

theorem localPlayerHandles_congr {s s' : P2P} (h : s'.handles = s.handles) :
    s'.localPlayerHandles = s.localPlayerHandles := by
  unfold localPlayerHandles; rw [h]

/-- The loops that only talk to the network are traversed once, for any reflexive transitive relation
their elementary steps keep; `SameCore` and "this field is unchanged" are the instances used. -/
structure StepRel (R : P2P → P2P → Prop) : Prop where
  refl : ∀ s, R s s
  trans : ∀ {a b c}, R a b → R b c → R a c

theorem SameCore.stepRel : StepRel SameCore := ⟨SameCore.refl, SameCore.trans⟩

theorem StepRel.proj {β} (g : P2P → β) : StepRel (fun s s' => g s' = g s) :=
  ⟨fun _ => rfl, fun h1 h2 => h2.trans h1⟩

section Rel
variable {R : P2P → P2P → Prop} (hR : StepRel R)
include hR

theorem foldlM_rel {α} (f : P2P → α → M P2P) (hf : ∀ s a s', f s a = .ok s' → R s s') :
    ∀ (l : List α) (s s' : P2P), l.foldlM f s = .ok s' → R s s' := by
  intro l
  induction l with
  | nil => intro s s' h; simp only [List.foldlM_nil] at h; cases pure_ok h; exact hR.refl s
  | cons a rest ih =>
    intro s s' h
    simp only [List.foldlM_cons] at h
    obtain ⟨s1, h1, h⟩ := bind_ok h
    exact hR.trans (hf s a s1 h1) (ih s1 s' h)

theorem queueInitialBlanks_rel (hq : ∀ s s' h inp, queueOutgoingLocalInput s h inp = .ok s' → R s s')
    (s s' : P2P) (h : Nat) (actual : Frame) (hb : s.queueInitialBlanks h actual = .ok s') : R s s' := by
  unfold queueInitialBlanks at hb
  split at hb
  · exact foldlM_rel hR _ (fun s a s' hh => hq s s' h _ hh) _ s s' hb
  · cases pure_ok hb; exact hR.refl s

theorem sendReady_rel (hsend : ∀ s s' now frame inputs, sendFrameToRemotes s now frame inputs = .ok s' → R s s')
    (s s' : P2P) (now : Nat) (h : s.sendReadyOutgoingInputsToRemotes now = .ok s') : R s s' := by
  have loop : ∀ (lh : List Nat) (fuel : Nat) (s s' : P2P),
      sendReadyOutgoingInputsToRemotes.loop now lh fuel s = .ok s' → R s s' := by
    intro lh fuel
    induction fuel with
    | zero => intro s s' h; simp only [sendReadyOutgoingInputsToRemotes.loop] at h; cases h; exact hR.refl s
    | succ k ih =>
      intro s s' h
      simp only [sendReadyOutgoingInputsToRemotes.loop] at h
      split at h
      · cases h; exact hR.refl s
      · split at h
        · obtain ⟨inputs, _, h⟩ := bind_ok h
          obtain ⟨r, hs, h⟩ := bind_ok h
          exact hR.trans (hsend _ _ _ _ _ hs) (ih _ s' h)
        · obtain ⟨_, hi, _⟩ := bind_ok h
          cases hi
  unfold sendReadyOutgoingInputsToRemotes at h
  split at h
  · cases pure_ok h; exact hR.refl s
  · simp only at h
    split at h
    · cases pure_ok h; exact hR.refl s
    · exact loop _ _ s s' h

theorem sendConfirmed_rel (hoff : ∀ s s' now m, offerToSpectators s now m = .ok s' → R s s')
    (s s' : P2P) (now : Nat) (confirmed : Frame)
    (h : s.sendConfirmedInputsToSpectators now confirmed = .ok s') : R s s' := by
  have loop : ∀ (fuel : Nat) (s s' : P2P),
      sendConfirmedInputsToSpectators.loop now confirmed fuel s = .ok s' → R s s' := by
    intro fuel
    induction fuel with
    | zero => intro s s' h; simp only [sendConfirmedInputsToSpectators.loop] at h; cases h; exact hR.refl s
    | succ k ih =>
      intro s s' h
      simp only [sendConfirmedInputsToSpectators.loop] at h
      split at h
      · obtain ⟨inputs, _, h⟩ := bind_ok h
        obtain ⟨_, h⟩ := ensure_bind_ok h
        obtain ⟨_, h⟩ := ensure_bind_ok h
        obtain ⟨r, ho, h⟩ := bind_ok h
        exact hR.trans (hoff _ _ _ _ ho) (ih _ s' h)
      · cases h; exact hR.refl s
  unfold sendConfirmedInputsToSpectators at h
  split at h
  · cases pure_ok h; exact hR.refl s
  · exact loop _ s s' h

end Rel

theorem foldlM_sameCore {α} (f : P2P → α → M P2P) (hf : ∀ s a s', f s a = .ok s' → SameCore s s') :
    ∀ (l : List α) (s s' : P2P), l.foldlM f s = .ok s' → SameCore s s' :=
  foldlM_rel SameCore.stepRel f hf

theorem queueOutgoing_sameCore (s s' : P2P) (h : Nat) (inp : PlayerInput)
    (hq : s.queueOutgoingLocalInput h inp = .ok s') : SameCore s s' := by
  rcases (queueOutgoingLocalInput_ok hq).2 with ⟨_, rfl⟩ | ⟨_, rfl⟩
  · exact SameCore.refl _
  · exact ⟨rfl, rfl, rfl, rfl, rfl, rfl, rfl, rfl, rfl⟩

theorem queueInitialBlanks_sameCore (s s' : P2P) (h : Nat) (actual : Frame)
    (hq : s.queueInitialBlanks h actual = .ok s') : SameCore s s' :=
  queueInitialBlanks_rel SameCore.stepRel queueOutgoing_sameCore s s' h actual hq

theorem sendFrameToRemotes_sameCore (s s' : P2P) (now : Nat) (frame : Frame) (inputs : List (Nat × PlayerInput))
    (h : s.sendFrameToRemotes now frame inputs = .ok s') : SameCore s s' := by
  obtain ⟨_, _, rfl⟩ := sendFrameToRemotes_ok h
  exact ⟨rfl, rfl, rfl, rfl, rfl, rfl, rfl, rfl, rfl⟩

theorem sendReady_sameCore (s s' : P2P) (now : Nat) (h : s.sendReadyOutgoingInputsToRemotes now = .ok s') :
    SameCore s s' :=
  sendReady_rel SameCore.stepRel sendFrameToRemotes_sameCore s s' now h

theorem offerToSpectators_sameCore (s s' : P2P) (now : Nat) (inputMap : List (Nat × PlayerInput))
    (h : s.offerToSpectators now inputMap = .ok s') : SameCore s s' := by
  obtain ⟨_, _, rfl⟩ := offerToSpectators_ok h
  exact ⟨rfl, rfl, rfl, rfl, rfl, rfl, rfl, rfl, rfl⟩

theorem sendConfirmed_sameCore (s s' : P2P) (now : Nat) (confirmed : Frame)
    (h : s.sendConfirmedInputsToSpectators now confirmed = .ok s') : SameCore s s' :=
  sendConfirmed_rel SameCore.stepRel offerToSpectators_sameCore s s' now confirmed h

end P2P
end Ggrs
