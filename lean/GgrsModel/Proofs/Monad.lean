/- Stepping through the panic monad `M = Except String`. -/
import GgrsModel.Model.Basic

namespace Ggrs

/-! As rewrite rules: `simp only [bind_eq_ok, pure_eq_ok, ensure_bind_eq_ok, Prod.exists] at h` turns
`f x = .ok r`, once `f` is unfolded, into the chain of its successful steps. -/

theorem bind_eq_ok {α β} {m : M α} {k : α → M β} {r : β} :
    (m >>= k) = .ok r ↔ ∃ a, m = .ok a ∧ k a = .ok r := by
  cases m <;> simp [bind, Except.bind]

theorem pure_eq_ok {α} {a r : α} : (pure a : M α) = .ok r ↔ a = r := by
  simp [pure, Except.pure]

theorem ensure_eq_ok {c : Bool} {msg : String} {u : Unit} : ensure c msg = .ok u ↔ c = true := by
  cases c <;> simp [ensure]

theorem ensure_bind_eq_ok {α} {c : Bool} {msg : String} {k : Unit → M α} {r : α} :
    (ensure c msg >>= k) = .ok r ↔ c = true ∧ k () = .ok r :=
  bind_eq_ok.trans ⟨fun ⟨_, hc, hk⟩ => ⟨ensure_eq_ok.1 hc, hk⟩, fun ⟨hc, hk⟩ => ⟨(), ensure_eq_ok.2 hc, hk⟩⟩

theorem bind_ok {α β} {m : M α} {k : α → M β} {r : β} (h : (m >>= k) = .ok r) :
    ∃ a, m = .ok a ∧ k a = .ok r :=
  bind_eq_ok.1 h

theorem pure_ok {α} {a r : α} (h : (pure a : M α) = .ok r) : a = r :=
  pure_eq_ok.1 h

theorem ensure_bind_ok {α} {c : Bool} {msg : String} {k : Unit → M α} {r : α}
    (h : (ensure c msg >>= k) = .ok r) : c = true ∧ k () = .ok r :=
  ensure_bind_eq_ok.1 h

end Ggrs
