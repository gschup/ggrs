/-
L-drop (spectators): what a host with dropped players hands to its spectators. Each offered frame
is the row of every player's real input — except that a player marked disconnected as of an earlier
frame is represented by the blank input carrying no frame (the spectator, which is sent the
connection statuses along with it, labels it Disconnected).
-/
import GgrsModel.Proofs.DropWorld
import GgrsModel.Proofs.SpecHost

namespace Ggrs
open InputQueue

/-- The row of frame `f` as `send_input` receives it from a host with dropped players. -/
def rowMapD (gh : DGhost) (st : List ConnStatus) (N : Nat) (f : Nat) : List (Nat × PlayerInput) :=
  (List.range N).map fun h =>
    (h, if Skip (rget st h) (f : Int) then PlayerInput.blank NULL_FRAME else ⟨(f : Int), (gh.specs h).vals.getD f 0⟩)

/-- The frames offered to the spectators by one call, in order. -/
inductive OffersD (gh : DGhost) (st : List ConnStatus) (N : Nat) (now : Nat) : P2P → P2P → Prop
  | done (s : P2P) : OffersD gh st N now s s
  | step (s s1 s' : P2P) (f : Nat) : s.nextSpectatorFrame = (f : Int) →
      s.offerToSpectators now (rowMapD gh st N f) = .ok s1 → OffersD gh st N now s1 s' → OffersD gh st N now s s'

theorem confirmedInputs_rowD (s : P2P) (gh : DGhost) (t0 : TLState) (reqs : List Request) (f : Nat)
    (inputs : List PlayerInput) (hs : SessInvD s gh t0 reqs s.localConnectStatus)
    (hle : ∀ p, p < s.sync.queues.length → (rget s.localConnectStatus p).disconnected = false →
      (f : Int) ≤ (rget s.localConnectStatus p).lastFrame)
    (hci : s.sync.confirmedInputs (f : Int) s.localConnectStatus = .ok inputs) :
    (inputs.zipIdx.map fun (x : PlayerInput × Nat) => (x.2, x.1)) =
      rowMapD gh s.localConnectStatus s.sync.queues.length f := by
  have hN : s.localConnectStatus.length = s.sync.queues.length := hs.tinv.sync.nq
  obtain ⟨hlen, hpt⟩ := SyncLayer.confirmedInputs_ok hci
  rw [zipIdx_map_swap, hlen, hN]
  unfold rowMapD
  apply List.map_congr_left
  intro p hp
  have hp := List.mem_range.mp hp
  obtain ⟨ha, hb⟩ := hpt p (by rw [hN]; exact hp)
  by_cases hsk : Skip (rget s.localConnectStatus p) (f : Int)
  · rw [if_pos hsk, ha hsk]
  · rw [if_neg hsk]
    -- the queue's slots hold the stream, and frame f has arrived
    rw [confirmedInput_ok _ _ (hs.tinv.sync.ring hp) f (hs.held hp (hle p hp) hsk) _ (hb hsk).2]

theorem sendConfirmedLoop_rowsD (gh : DGhost) (t0 : TLState) (reqs : List Request) (now : Nat) (confirmed : Frame) :
    ∀ (fuel : Nat) (s s' : P2P), SessInvD s gh t0 reqs s.localConnectStatus → 0 ≤ s.nextSpectatorFrame →
    (∀ p, p < s.sync.queues.length → (rget s.localConnectStatus p).disconnected = false →
      confirmed ≤ (rget s.localConnectStatus p).lastFrame) →
    P2P.sendConfirmedInputsToSpectators.loop now confirmed fuel s = .ok s' →
    OffersD gh s.localConnectStatus s.sync.queues.length now s s' := by
  intro fuel
  induction fuel with
  | zero => intro s s' _ _ _ h; cases h; exact OffersD.done s
  | succ k ih =>
    intro s s' hs h0 hle h
    rcases P2P.sendConfirmedLoop_succ h with ⟨_, rfl⟩ | ⟨hc, inputs, s1, hci, hoff, hn1, h⟩
    · exact OffersD.done _
    · obtain ⟨f, hf⟩ : ∃ f : Nat, s.nextSpectatorFrame = (f : Int) := ⟨s.nextSpectatorFrame.toNat, by omega⟩
      rw [hf] at hci
      rw [confirmedInputs_rowD s gh t0 reqs f inputs hs (fun p hp hcn => by have := hle p hp hcn; omega) hci] at hoff
      have hc1 := P2P.offerToSpectators_sameCore _ _ _ _ hoff
      have hs1 : SessInvD s1 gh t0 reqs s1.localConnectStatus := by
        rw [hc1.statuses]; exact SessInvD_congr s s1 gh t0 reqs _ hs hc1
      have ho := ih s1 s' hs1 (by omega) (fun p hp => by rw [hc1.statuses]; rw [hc1.sync] at hp; exact hle p hp) h
      rw [hc1.sync, hc1.statuses] at ho
      exact OffersD.step s s1 s' f hf hoff ho

theorem sendConfirmed_rowsD (s s' : P2P) (gh : DGhost) (t0 : TLState) (reqs : List Request) (now : Nat)
    (confirmed : Frame) (hs : SessInvD s gh t0 reqs s.localConnectStatus) (h0 : 0 ≤ s.nextSpectatorFrame)
    (hle : ∀ p, p < s.sync.queues.length → (rget s.localConnectStatus p).disconnected = false →
      confirmed ≤ (rget s.localConnectStatus p).lastFrame)
    (h : s.sendConfirmedInputsToSpectators now confirmed = .ok s') :
    OffersD gh s.localConnectStatus s.sync.queues.length now s s' := by
  rcases P2P.sendConfirmed_ok h with rfl | h
  · exact OffersD.done _
  · exact sendConfirmedLoop_rowsD gh t0 reqs now confirmed _ s s' hs h0 hle h

namespace P2P

theorem disconnectAt_nsf (s s' : P2P) (now handle : Nat) (lastFrame : Frame)
    (h : s.disconnectPlayerAtFrame now handle lastFrame = .ok s') :
    s'.nextSpectatorFrame = s.nextSpectatorFrame := by
  obtain ⟨_, _, _, _, _, rfl⟩ := disconnectAt_frame s s' now handle lastFrame h
  rfl

end P2P

/-- `rollbackTick_offers` for a host with dropped players: the offered rows are `rowMapD`, and
`confirmed` is the minimum over the players still connected (`C06_host_rows_drops`). -/
theorem rollbackTick_offersD (s s' : P2P) (gh : DGhost) (t0 : TLState) (reqs reqs' : List Request) (now : Nat)
    (st0 : List ConnStatus) (h : SessInvD s gh t0 reqs st0) (h0 : 0 ≤ s.nextSpectatorFrame)
    (hadv : s.advanceRollbackFrame now reqs = .ok (s', reqs')) :
    ∃ (confirmed : Frame) (s1 s2 : P2P) (gh1 : DGhost), s.confirmedFrame = .ok confirmed ∧ gh1.specs = gh.specs ∧
      s1.nextSpectatorFrame = s.nextSpectatorFrame ∧
      OffersD gh1 s.localConnectStatus s.sync.queues.length now s1 s2 ∧
      s'.nextSpectatorFrame = s2.nextSpectatorFrame ∧
      s.nextSpectatorFrame ≤ s'.nextSpectatorFrame ∧
      s'.nextSpectatorFrame ≤ max s.nextSpectatorFrame (confirmed + 1) := by
  obtain ⟨confirmed, s1, reqs1, s2, sy3, s4, gh1, _, _, k⟩ := advanceRollbackFrame_preGateD s s' gh t0 reqs reqs' now st0 h hadv
  obtain ⟨hn1, hn'⟩ := P2P.advanceRollbackFrame_nsf k.rs k.reg k.gate
  have hinv1 := SessInvD_of_settledD s s1 gh gh1 t0 reqs reqs1 st0 h k.settled
  have hle : ∀ p, p < s1.sync.queues.length → (rget s1.localConnectStatus p).disconnected = false →
      confirmed ≤ (rget s1.localConnectStatus p).lastFrame := by
    intro p hp hc
    rw [k.settled.statuses] at hc ⊢
    exact confirmedFrame_leD s confirmed k.conf p (by rw [h.nst, ← k.settled.nq]; exact hp) hc
  have hoff := sendConfirmed_rowsD s1 s2 gh1 t0 reqs1 now confirmed hinv1 (by rw [hn1]; exact h0) hle k.spec
  have hb := P2P.sendConfirmed_nsf k.spec
  rw [k.settled.nq, k.settled.statuses] at hoff
  rw [hn1, ← hn'] at hb
  exact ⟨confirmed, s1, s2, gh1, k.conf, k.settled.specs, hn1, hoff, hn', hb⟩

theorem XStep.nsf_le {x y : P2P × TLState} (hs : XStep x y) : x.1.nextSpectatorFrame ≤ y.1.nextSpectatorFrame := by
  cases hs with
  | remoteInput s s' t now inp player handles addr hnl hf hev =>
    exact Int.le_of_eq (P2P.remoteInput_nsf s s' now inp player handles addr hev).symm
  | tick s s' t now reqs' hadv => exact P2P.advanceRollbackFrame_nsf_le hadv
  | localInput s t handle input => exact Int.le_of_eq (P2P.addLocalInput_nsf s handle input).symm
  | saves s t sv => exact Int.le_refl _
  | dropApi s s' t now handle addr ep hpt hep hrem hlt hl0 hsame hcall =>
    exact Int.le_of_eq (P2P.disconnectAt_nsf _ _ _ _ _ (P2P.disconnectPlayer_remote_ok hpt hcall).2).symm
  | dropEvent s s' t now addr hs ep L hpt hep hsub hrem hlt hconn hL0 hsame hev =>
    obtain ⟨s1, hfold, rfl⟩ := P2P.handleEventCore_disconnected_ok hev
    exact Int.le_of_eq (P2P.foldlM_rel (P2P.StepRel.proj (·.nextSpectatorFrame)) _ (fun a h b hh => P2P.disconnectAt_nsf a b now h _ hh) hs s s1 hfold).symm
  | adopt s s' t now handle addr ep lf hpt hep hrem hl0 hlow hdead hdrop =>
    exact Int.le_of_eq (P2P.disconnectAt_nsf _ _ _ _ _ hdrop).symm

theorem nsf_runX (x y : P2P × TLState) (h0 : 0 ≤ x.1.nextSpectatorFrame)
    (hr : XStar x y) : 0 ≤ y.1.nextSpectatorFrame := by
  induction hr with
  | refl => exact h0
  | step y z _ hs ih => exact Int.le_trans ih hs.nsf_le

end Ggrs
