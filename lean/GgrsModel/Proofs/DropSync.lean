/-
L-drop (sync level): the rollback core with players marked disconnected. `synchronized_inputs` skips
the queue of a player marked disconnected as of an earlier frame and hands the game the blank input
with status Disconnected. So a dead player's queue lags behind, at frame `min cur (last_frame + 1)`
(`pcur`). Once the confirmed frame has passed its last frame, `discard_confirmed_frames` empties it;
from then on the player is `gone` and every frame simulated lies beyond its last frame.
-/
import GgrsModel.Proofs.Timeline
import GgrsModel.Proofs.Earliest
import GgrsModel.Proofs.Calls

namespace Ggrs
open InputQueue

/-- The frame a player's queue is at. -/
def pcur (cs : ConnStatus) (cur : Int) : Int :=
  if cs.disconnected = true then min cur (cs.lastFrame + 1) else cur

theorem pcur_le (cs : ConnStatus) (cur : Int) : pcur cs cur ≤ cur := by
  unfold pcur; split
  · exact Int.min_le_left _ _
  · exact Int.le_refl _

/-- `synchronized_inputs` skips this player at frame `cur`. -/
def Skip (cs : ConnStatus) (cur : Int) : Prop := cs.disconnected = true ∧ cs.lastFrame < cur

instance (cs : ConnStatus) (cur : Int) : Decidable (Skip cs cur) := by unfold Skip; infer_instance

theorem pcur_eq (cs : ConnStatus) (cur : Int) (h : cs.disconnected = true → cur ≤ cs.lastFrame + 1) :
    pcur cs cur = cur := by
  unfold pcur
  split
  · rename_i hd
    have := h hd
    omega
  · rfl

theorem pcur_alive (cs : ConnStatus) (cur : Int) (h : cs.disconnected = false) : pcur cs cur = cur :=
  pcur_eq cs cur fun hd => by rw [h] at hd; cases hd

theorem Skip.of_not {cs : ConnStatus} {cur : Int} (h : ¬ Skip cs cur) (hd : cs.disconnected = true) :
    cur ≤ cs.lastFrame :=
  Int.not_lt.mp fun hl => h ⟨hd, hl⟩

theorem pcur_skip (cs : ConnStatus) (cur : Int) (h : Skip cs cur) : pcur cs cur = cs.lastFrame + 1 := by
  unfold pcur; rw [if_pos h.1]; have := h.2; omega

theorem pcur_skip_succ (cs : ConnStatus) (cur : Int) (h : Skip cs cur) : pcur cs (cur + 1) = pcur cs cur := by
  simp only [pcur, if_pos h.1]; have := h.2; omega

theorem pcur_noskip (cs : ConnStatus) (cur : Int) (h : ¬ Skip cs cur) : pcur cs cur = cur :=
  pcur_eq cs cur fun hd => by have := Skip.of_not h hd; omega

theorem pcur_noskip_succ (cs : ConnStatus) (cur : Int) (h : ¬ Skip cs cur) : pcur cs (cur + 1) = cur + 1 :=
  pcur_eq cs (cur + 1) fun hd => by have := Skip.of_not h hd; omega

theorem ne_of_natCast_lt {f c : Nat} (h : (f : Int) < c) : f ≠ c := by
  rintro rfl
  exact Int.lt_irrefl _ h

theorem natCast_lt_of_lt_succ {f c : Nat} (h : (f : Int) < c + 1) (hne : f ≠ c) : (f : Int) < c := by
  omega

theorem QI_congr_T (pr : Predictor) (q : InputQueue) (s : QSpec) (H : Hist) (Tp Tp' : Nat → Input) (cur : Int)
    (h : QI pr q s H Tp cur) (he : ∀ f : Nat, (f : Int) < cur → Tp' f = Tp f) : QI pr q s H Tp' cur := by
  refine ⟨h.ring, h.pt, ⟨?_, h.tl.predicting, h.tl.lastReq⟩⟩
  intro f hf
  rw [he f hf]
  exact h.tl.col f hf

theorem syncLoopD (pr : Predictor) (cur : Frame) : ∀ (statuses : List ConnStatus) (i : Nat)
    (qs : List InputQueue) (acc : List (Input × InputStatus)) (qs' : List InputQueue)
    (out : List (Input × InputStatus)),
    SyncLayer.synchronizedInputsLoop pr cur statuses i qs acc = .ok (qs', out) →
    qs'.length = qs.length ∧ ∃ vs : List (Input × InputStatus), out = acc.reverse ++ vs ∧
      vs.length = statuses.length ∧
      (∀ p, (p < i ∨ i + statuses.length ≤ p) → rget qs' p = rget qs p) ∧
      (∀ k, k < statuses.length →
        (Skip (rget statuses k) cur → rget qs' (i + k) = rget qs (i + k) ∧ vs.getD k default = (0, .disconnected)) ∧
        (¬ Skip (rget statuses k) cur → i + k < qs.length ∧
          (rget qs (i + k)).input pr cur = .ok (rget qs' (i + k), (vs.getD k default).1, (vs.getD k default).2))) := by
  intro statuses
  induction statuses with
  | nil =>
    intro i qs acc qs' out h
    simp only [SyncLayer.synchronizedInputsLoop] at h
    cases h
    exact ⟨rfl, [], by simp, rfl, fun _ _ => rfl, fun k hk => by simp at hk⟩
  | cons cs rest ih =>
    intro i qs acc qs' out h
    obtain ⟨qs1, x, hrec, hx⟩ := SyncLayer.synchronizedInputsLoop_cons_ok h
    obtain ⟨hlen, vs, hout, hvl, hsame, hstep⟩ := ih (i + 1) qs1 (x :: acc) qs' out hrec
    have hl1 : qs1.length = qs.length := by
      rcases hx with ⟨_, e, _⟩ | ⟨_, _, q, _, e⟩
      · rw [e]
      · rw [e, rset_length]
    have hne : ∀ p, p ≠ i → rget qs1 p = rget qs p := by
      intro p hp
      rcases hx with ⟨_, e, _⟩ | ⟨_, _, q, _, e⟩
      · rw [e]
      · rw [e, rget_rset_ne _ _ _ _ (fun h => hp h.symm)]
    refine ⟨hlen.trans hl1, x :: vs, by rw [hout, List.reverse_cons, List.append_assoc]; rfl,
      by rw [List.length_cons, List.length_cons, hvl], ?_, ?_⟩
    · intro p hp
      simp only [List.length_cons] at hp
      rw [hsame p (by omega), hne p (by omega)]
    · intro k hk
      simp only [List.length_cons] at hk
      cases k with
      | zero =>
        have hi : rget qs' i = rget qs1 i := hsame i (Or.inl (by omega))
        simp only [Nat.add_zero, List.getD_cons_zero, hi]
        show (Skip cs cur → _) ∧ (¬ Skip cs cur → _)
        rcases hx with ⟨hsk, e, ex⟩ | ⟨hsk, hi', q, hin, e⟩
        · exact ⟨fun _ => ⟨by rw [e], ex⟩, fun hn => absurd hsk hn⟩
        · refine ⟨fun hs => absurd hs hsk, fun _ => ⟨hi', ?_⟩⟩
          rw [e, rget_rset_eq _ _ _ hi']
          exact hin
      | succ k =>
        have e : i + 1 + k = i + (k + 1) := by omega
        have := hstep k (by omega)
        rw [e, hne _ (by omega), hl1] at this
        exact this

/-- Per-player ghost state, plus which dead players' queues have been given up. -/
structure DGhost where
  specs : Nat → QSpec
  hists : Nat → Hist
  T : Nat → Nat → Input
  gone : Nat → Prop

/-- What is still known about a player whose queue has been emptied: it is marked disconnected as
of a frame before the current one, its queue flags nothing, and its column is right up to its last
frame. -/
structure GoneOk (q : InputQueue) (cs : ConnStatus) (sp : QSpec) (Tp : Nat → Input) (cur : Int) : Prop where
  dead : cs.disconnected = true
  lt : cs.lastFrame < cur
  clean : q.firstIncorrectFrame = NULL_FRAME
  right : ∀ f : Nat, (f : Int) ≤ cs.lastFrame → f < sp.vals.length → Tp f = sp.vals.getD f 0
  /-- the ring slots still hold the stream (only `tail` and `length` are off) -/
  ring : Refines q.strip sp

theorem refines_discard_any (q q' : InputQueue) (s : QSpec) (f : Frame) (hr : Refines q.strip s)
    (hd : q.discardConfirmedFrames f = .ok q') : Refines q'.strip s := by
  obtain ⟨_, _, hc⟩ := InputQueue.discardConfirmedFrames_ok hd
  rcases hc with ⟨_, rfl⟩ | ⟨_, _, rfl⟩ | ⟨_, _, _, rfl⟩
  · exact hr.congr rfl
  · exact hr
  · exact hr.congr rfl

theorem GoneOk.discard {q q' : InputQueue} {cs : ConnStatus} {sp : QSpec} {Tp : Nat → Input} {cur : Int} {f : Frame}
    (h : GoneOk q cs sp Tp cur) (hd : q.discardConfirmedFrames f = .ok q') : GoneOk q' cs sp Tp cur :=
  ⟨h.dead, h.lt, by rw [(discard_fields _ _ _ hd).2.1]; exact h.clean, h.right, refines_discard_any _ _ _ _ h.ring hd⟩

theorem refines_reset (q : InputQueue) (s : QSpec) (hr : Refines q.strip s) : Refines q.resetPrediction.strip s :=
  hr.congr rfl

/-- `SyncInv` with dead players: a queue is either given up (`GoneOk`) or satisfies `QI` at its own
frame `pcur` — the session's frame for a connected player. -/
structure SyncInvD (pr : Predictor) (sy : SyncLayer) (st : List ConnStatus) (gh : DGhost) : Prop where
  cur : 0 ≤ sy.currentFrame
  nq : st.length = sy.queues.length
  gone : ∀ p, p < sy.queues.length → gh.gone p →
    GoneOk (rget sy.queues p) (rget st p) (gh.specs p) (gh.T p) sy.currentFrame
  live : ∀ p, p < sy.queues.length → ¬ gh.gone p →
    QI pr (rget sy.queues p) (gh.specs p) (gh.hists p) (gh.T p) (pcur (rget st p) sy.currentFrame)

theorem SyncInvD.ring {pr sy st gh} (h : SyncInvD pr sy st gh) {p : Nat} (hp : p < sy.queues.length) :
    Refines (rget sy.queues p).strip (gh.specs p) := by
  by_cases hg : gh.gone p
  · exact (h.gone p hp hg).ring
  · exact (h.live p hp hg).ring

/-- What the game is handed for frame `cur`. -/
def InputsOkD (pr : Predictor) (gh : DGhost) (st : List ConnStatus) (cur : Nat) (vs : List (Input × InputStatus)) : Prop :=
  ∀ p, p < vs.length →
    (Skip (rget st p) cur → vs.getD p default = (0, .disconnected)) ∧
    (¬ Skip (rget st p) cur →
      (((vs.getD p default).2 = .confirmed ∧ cur < (gh.specs p).vals.length ∧
          (vs.getD p default).1 = (gh.specs p).vals.getD cur 0) ∨
       ((vs.getD p default).2 = .predicted ∧ (gh.specs p).vals.length ≤ cur ∧
          (vs.getD p default).1 = predValue pr (gh.specs p).vals)))

/-- `synchronized_inputs` + `advance_frame`: one simulated frame `c`. -/
theorem SyncInvD_simulate (pr : Predictor) (sy : SyncLayer) (st : List ConnStatus) (gh : DGhost) (c : Nat)
    (qs : List InputQueue) (inputs : List (Input × InputStatus))
    (h : SyncInvD pr sy st gh) (hc : sy.currentFrame = (c : Int))
    (hs : SyncLayer.synchronizedInputsLoop pr (c : Int) st 0 sy.queues [] = .ok (qs, inputs)) :
    qs.length = sy.queues.length ∧ inputs.length = sy.queues.length ∧ InputsOkD pr gh st c inputs ∧
    (∀ p, p < sy.queues.length → (rget st p).disconnected = false → Asked (rget qs p) ((c : Int) + 1)) ∧
    (∀ p, p < sy.queues.length → (Skip (rget st p) c → (rget sy.queues p).firstIncorrectFrame = NULL_FRAME) →
      (rget qs p).firstIncorrectFrame = NULL_FRAME) ∧
    ∃ gh' : DGhost, gh'.specs = gh.specs ∧ gh'.gone = gh.gone ∧
      gh'.T = (fun p => upd (gh.T p) c (inputs.getD p default).1) ∧
      ∀ sy2 : SyncLayer, sy2.queues = qs → sy2.currentFrame = (c : Int) + 1 → SyncInvD pr sy2 st gh' := by
  obtain ⟨hl, vs, hout, hvl, _, hstep⟩ := syncLoopD pr (c : Int) st 0 sy.queues [] qs inputs hs
  simp only [List.reverse_nil, List.nil_append] at hout
  simp only [Nat.zero_add] at hstep
  subst hout
  have hn : st.length = sy.queues.length := h.nq
  have hskip : ∀ p, p < sy.queues.length → Skip (rget st p) (c : Int) →
      rget qs p = rget sy.queues p ∧ inputs.getD p default = (0, .disconnected) :=
    fun p hp hsk => (hstep p (hn ▸ hp)).1 hsk
  have hgs : ∀ p, p < sy.queues.length → gh.gone p → Skip (rget st p) (c : Int) := by
    intro p hp hg
    have := h.gone p hp hg
    exact ⟨this.dead, by rw [← hc]; exact this.lt⟩
  have hreq : ∀ p, p < sy.queues.length → ¬ Skip (rget st p) (c : Int) →
      ∃ H', QI pr (rget qs p) (gh.specs p) H' (upd (gh.T p) c (inputs.getD p default).1) ((c : Int) + 1) ∧
        Asked (rget qs p) ((c : Int) + 1) ∧ (rget qs p).firstIncorrectFrame = NULL_FRAME ∧
        (((inputs.getD p default).2 = .confirmed ∧ c < (gh.specs p).vals.length ∧
            (inputs.getD p default).1 = (gh.specs p).vals.getD c 0) ∨
         ((inputs.getD p default).2 = .predicted ∧ (gh.specs p).vals.length ≤ c ∧
            (inputs.getD p default).1 = predValue pr (gh.specs p).vals)) := by
    intro p hp hns
    have hq := h.live p hp fun hg => hns (hgs p hp hg)
    rw [hc, pcur_noskip _ _ hns] at hq
    exact QI_request pr _ _ _ _ _ c _ _ hq ((hstep p (hn ▸ hp)).2 hns).2
  have hH : ∀ p, ∃ H', p < sy.queues.length → ¬ gh.gone p →
      QI pr (rget qs p) (gh.specs p) H' (upd (gh.T p) c (inputs.getD p default).1) (pcur (rget st p) ((c : Int) + 1)) := by
    intro p
    by_cases hsk : Skip (rget st p) (c : Int)
    · refine ⟨gh.hists p, fun hp hng => ?_⟩
      rw [(hskip p hp hsk).1, pcur_skip_succ _ _ hsk]
      refine QI_congr_T pr _ _ _ _ _ _ (hc ▸ h.live p hp hng) fun f hf => ?_
      rw [pcur_skip _ _ hsk] at hf
      rw [upd_ne _ _ _ _ (ne_of_natCast_lt (Int.lt_of_lt_of_le hf (Int.add_one_le_of_lt hsk.2)))]
    · by_cases hp : p < sy.queues.length
      · obtain ⟨H', hq, _⟩ := hreq p hp hsk
        exact ⟨H', fun _ _ => by rw [pcur_noskip_succ _ _ hsk]; exact hq⟩
      · exact ⟨[], fun hp' => absurd hp' hp⟩
  obtain ⟨Hf, hHf⟩ := Classical.axiomOfChoice hH
  refine ⟨hl, by rw [hvl, hn], ?_, ?_, ?_,
    ⟨gh.specs, Hf, fun p => upd (gh.T p) c (inputs.getD p default).1, gh.gone⟩, rfl, rfl, rfl, ?_⟩
  · intro p hp
    rw [hvl, hn] at hp
    refine ⟨fun hsk => (hskip p hp hsk).2, fun hns => ?_⟩
    obtain ⟨_, _, _, _, hv⟩ := hreq p hp hns
    exact hv
  · intro p hp hconn
    obtain ⟨_, _, ha, _⟩ := hreq p hp fun hsk => by have := hsk.1; rw [hconn] at this; cases this
    exact ha
  · intro p hp hcl
    by_cases hsk : Skip (rget st p) (c : Int)
    · rw [(hskip p hp hsk).1]; exact hcl hsk
    · obtain ⟨_, _, _, hf, _⟩ := hreq p hp hsk
      exact hf
  · intro sy2 hq2 hc2
    refine ⟨by rw [hc2]; exact Int.le_add_one (Int.natCast_nonneg c), by rw [hq2, hl]; exact hn, ?_, ?_⟩
    · intro p hp hg
      rw [hq2, hl] at hp
      have hsk := hgs p hp hg
      have hgo := h.gone p hp hg
      rw [hq2, hc2, (hskip p hp hsk).1]
      refine ⟨hgo.dead, Int.lt_trans hsk.2 (Int.lt_succ _), hgo.clean, fun f hf hlen => ?_, hgo.ring⟩
      show upd (gh.T p) c _ f = _
      rw [upd_ne _ _ _ _ (ne_of_natCast_lt (Int.lt_of_le_of_lt hf hsk.2))]
      exact hgo.right f hf hlen
    · intro p hp hng
      rw [hq2, hl] at hp
      rw [hq2, hc2]
      exact hHf p hp hng

/-- The session invariant with the game-side view. -/
structure TInvD (pr : Predictor) (sy : SyncLayer) (st : List ConnStatus) (gh : DGhost) (t0 : TLState)
    (reqs : List Request) : Prop where
  sync : SyncInvD pr sy st gh
  exec : (execReqs t0 reqs).cur = sy.currentFrame
  rows : ∀ p, p < sy.queues.length → ∀ f, gh.T p f = (((execReqs t0 reqs).R f).getD p default).1
  deadRows : ∀ p, p < sy.queues.length → (rget st p).disconnected = true → ∀ f : Nat,
    (rget st p).lastFrame < (f : Int) → (f : Int) < sy.currentFrame →
    ((execReqs t0 reqs).R f).getD p default = (0, .disconnected)

theorem SyncInvD_congr {pr sy sy2 st gh} (h : SyncInvD pr sy st gh) (hq : sy2.queues = sy.queues)
    (hc : sy2.currentFrame = sy.currentFrame) : SyncInvD pr sy2 st gh :=
  ⟨by rw [hc]; exact h.cur, by rw [hq]; exact h.nq, by rw [hq, hc]; exact h.gone, by rw [hq, hc]; exact h.live⟩

theorem TInvD_congr {pr sy sy2 st gh t0 reqs reqs2} (h : TInvD pr sy st gh t0 reqs) (hq : sy2.queues = sy.queues)
    (hc : sy2.currentFrame = sy.currentFrame) (he : execReqs t0 reqs2 = execReqs t0 reqs) :
    TInvD pr sy2 st gh t0 reqs2 :=
  ⟨SyncInvD_congr h.sync hq hc, by rw [he, hc]; exact h.exec, by rw [he, hq]; exact h.rows,
    by rw [he, hq, hc]; exact h.deadRows⟩

/-- `mid` is whatever the caller appends between computing the inputs and the AdvanceFrame request
(nothing or a SaveGameState). -/
theorem TInvD_simulate (pr : Predictor) (sy sy2 : SyncLayer) (st : List ConnStatus) (gh : DGhost)
    (t0 : TLState) (reqs mid : List Request) (c : Nat) (inputs : List (Input × InputStatus))
    (h : TInvD pr sy st gh t0 reqs) (hc : sy.currentFrame = (c : Int))
    (hs : SyncLayer.synchronizedInputsLoop pr (c : Int) st 0 sy.queues [] = .ok (sy2.queues, inputs))
    (hmid : ∀ r ∈ mid, ∃ f, r = .save f) (hc2 : sy2.currentFrame = (c : Int) + 1) :
    sy2.queues.length = sy.queues.length ∧ inputs.length = sy.queues.length ∧ InputsOkD pr gh st c inputs ∧
    (∀ p, p < sy.queues.length → (rget st p).disconnected = false → Asked (rget sy2.queues p) ((c : Int) + 1)) ∧
    (∀ p, p < sy.queues.length → (Skip (rget st p) c → (rget sy.queues p).firstIncorrectFrame = NULL_FRAME) →
      (rget sy2.queues p).firstIncorrectFrame = NULL_FRAME) ∧
    ∃ gh' : DGhost, gh'.specs = gh.specs ∧ gh'.gone = gh.gone ∧
      TInvD pr sy2 st gh' t0 (reqs ++ mid ++ [.advance inputs]) := by
  obtain ⟨hl, hil, hok, hask, hcl, gh', hsp, hgo, hT, hinv⟩ := SyncInvD_simulate pr sy st gh c _ inputs h.sync hc hs
  have hexec : execReqs t0 (reqs ++ mid ++ [.advance inputs]) =
      { cur := (c : Int) + 1, R := upd (execReqs t0 reqs).R c inputs } := by
    rw [execReqs_append, execReqs_append, execReqs_saves _ mid hmid]
    show execReq (execReqs t0 reqs) (.advance inputs) = _
    simp only [execReq, h.exec.trans hc, Int.toNat_natCast]
  refine ⟨hl, hil, hok, hask, hcl, gh', hsp, hgo, hinv sy2 rfl hc2, by rw [hexec, hc2], ?_, ?_⟩
  · intro p hp f
    rw [hl] at hp
    rw [hexec, hT]
    show upd (gh.T p) c _ f = ((upd _ c inputs f).getD p default).1
    by_cases hf : f = c
    · subst hf; rw [upd_self, upd_self]
    · rw [upd_ne _ _ _ _ hf, upd_ne _ _ _ _ hf]; exact h.rows p hp f
  · intro p hp hd f hlf hfc
    rw [hl] at hp
    rw [hc2] at hfc
    rw [hexec]
    by_cases hf : f = c
    · subst hf
      show (upd _ f inputs f).getD p default = _
      rw [upd_self]
      exact (hok p (by rw [hil]; exact hp)).1 ⟨hd, hlf⟩
    · show (upd _ c inputs f).getD p default = _
      rw [upd_ne _ _ _ _ hf]
      exact h.deadRows p hp hd f hlf (hc ▸ natCast_lt_of_lt_succ hfc hf)

theorem resim_loopD (s : P2P) (mc : Frame) (t0 : TLState) : ∀ (n i : Nat) (sy : SyncLayer) (reqs : List Request)
    (sy' : SyncLayer) (reqs' : List Request) (gh : DGhost),
    TInvD s.pred sy s.localConnectStatus gh t0 reqs →
    (∀ p, p < sy.queues.length → (rget sy.queues p).firstIncorrectFrame = NULL_FRAME) →
    P2P.adjustGamestate.loop s mc n i sy reqs = .ok (sy', reqs') →
    ∃ gh' : DGhost, TInvD s.pred sy' s.localConnectStatus gh' t0 reqs' ∧ gh'.specs = gh.specs ∧ gh'.gone = gh.gone ∧
      sy'.currentFrame = sy.currentFrame + n ∧ sy'.queues.length = sy.queues.length ∧
      (∀ p, p < sy'.queues.length → (rget sy'.queues p).firstIncorrectFrame = NULL_FRAME) ∧
      (n > 0 → ∀ p, p < sy'.queues.length → (rget s.localConnectStatus p).disconnected = false →
        Asked (rget sy'.queues p) sy'.currentFrame) ∧
      (sy'.lastSavedFrame = sy.lastSavedFrame ∨ sy.currentFrame ≤ sy'.lastSavedFrame) := by
  intro n
  induction n with
  | zero =>
    intro i sy reqs sy' reqs' gh h hcl hl
    simp only [P2P.adjustGamestate.loop] at hl
    cases hl
    exact ⟨gh, h, rfl, rfl, (Int.add_zero _).symm, rfl, hcl, fun h0 => absurd h0 (Nat.lt_irrefl 0), Or.inl rfl⟩
  | succ k ih =>
    intro i sy reqs sy' reqs' gh h hcl hl
    obtain ⟨sy1, ins, sy2, reqs2, hsim, hsave, hl⟩ := P2P.adjustGamestate_loop_succ_ok hl
    obtain ⟨qs, hloop, rfl⟩ := SyncLayer.synchronizedInputs_ok hsim
    obtain ⟨c, hc0⟩ : ∃ c : Nat, sy.currentFrame = (c : Int) := ⟨_, (Int.toNat_of_nonneg h.sync.cur).symm⟩
    obtain ⟨mid, rfl, hmid, hq2, hc2, hls2⟩ : ∃ mid : List Request, reqs2 = reqs ++ mid ∧
        (∀ r ∈ mid, ∃ f, r = .save f) ∧ sy2.queues = qs ∧ sy2.currentFrame = sy.currentFrame ∧
        (sy2.lastSavedFrame = sy.lastSavedFrame ∨ sy2.lastSavedFrame = sy.currentFrame) := by
      rcases P2P.resimSave_ok hsave with ⟨_, r, hsv, rfl⟩ | ⟨_, rfl, rfl⟩
      · obtain ⟨_, rfl, rfl⟩ := SyncLayer.saveCurrentState_ok hsv
        exact ⟨[_], rfl, fun x hx => ⟨_, List.mem_singleton.mp hx⟩, rfl, rfl, Or.inr rfl⟩
      · exact ⟨[], (List.append_nil _).symm, (fun _ hx => nomatch hx), rfl, rfl, Or.inl rfl⟩
    have hcur1 : sy2.advanceFrame.currentFrame = sy.currentFrame + 1 := by
      show sy2.currentFrame + 1 = _; rw [hc2]
    rw [hc0, ← hq2] at hloop
    obtain ⟨hlen1, _, _, hask1, hcl1, gh1, hsp1, hgo1, hinv1⟩ := TInvD_simulate s.pred sy sy2.advanceFrame
      s.localConnectStatus gh t0 reqs mid c ins h hc0 hloop hmid (by rw [hcur1, hc0])
    obtain ⟨gh', hinv', hsp', hgo', hcur', hql', hcl', hrest, hlsr⟩ := ih (i + 1) sy2.advanceFrame _ sy' reqs' gh1 hinv1
      (fun p hp => hcl1 p (hlen1 ▸ hp) fun _ => hcl p (hlen1 ▸ hp)) hl
    refine ⟨gh', hinv', hsp'.trans hsp1, hgo'.trans hgo1, by rw [hcur', hcur1, Int.add_assoc, Int.add_comm 1, Int.natCast_succ],
      hql'.trans hlen1, hcl', fun _ => ?_, ?_⟩
    · by_cases hk : k > 0
      · exact hrest hk
      · obtain rfl := Nat.eq_zero_of_not_pos hk
        simp only [P2P.adjustGamestate.loop] at hl
        cases hl
        intro p hp hconn
        rw [hcur1, hc0]
        exact hask1 p (hlen1 ▸ hp) hconn
    · have hls2' : sy2.advanceFrame.lastSavedFrame = sy2.lastSavedFrame := rfl
      rw [hcur1, hls2'] at hlsr
      rcases hlsr with hx | hx
      · rw [hx]
        rcases hls2 with hy | hy
        · exact Or.inl hy
        · exact Or.inr (by rw [hy]; exact Int.le_refl _)
      · exact Or.inr (Int.le_of_lt (Int.lt_of_add_one_le hx))

/-- `st1` is `st0` with some more players marked disconnected (their last frames unchanged). -/
structure Marks (st0 st1 : List ConnStatus) : Prop where
  len : st1.length = st0.length
  last : ∀ p, (rget st1 p).lastFrame = (rget st0 p).lastFrame
  mono : ∀ p, (rget st0 p).disconnected = true → (rget st1 p).disconnected = true

theorem Marks.refl (st : List ConnStatus) : Marks st st := ⟨rfl, fun _ => rfl, fun _ h => h⟩

theorem pcur_mono (cs : ConnStatus) {r cur : Int} (hr : r ≤ cur) : pcur cs r ≤ pcur cs cur := by
  unfold pcur
  split <;> omega

theorem TInvD_marks (pr : Predictor) (sy : SyncLayer) (st0 st1 : List ConnStatus) (gh : DGhost) (t0 : TLState)
    (reqs : List Request) (h : TInvD pr sy st0 gh t0 reqs) (hm : Marks st0 st1)
    (hnew : ∀ p, p < sy.queues.length → (rget st0 p).disconnected = false → (rget st1 p).disconnected = true →
      sy.currentFrame ≤ (rget st0 p).lastFrame + 1) :
    TInvD pr sy st1 gh t0 reqs := by
  refine ⟨⟨h.sync.cur, by rw [hm.len]; exact h.sync.nq, ?_, ?_⟩, h.exec, h.rows, ?_⟩
  · intro p hp hg
    have := h.sync.gone p hp hg
    exact ⟨hm.mono p this.dead, by rw [hm.last]; exact this.lt, this.clean, by rw [hm.last]; exact this.right, this.ring⟩
  · intro p hp hng
    have he : pcur (rget st1 p) sy.currentFrame = pcur (rget st0 p) sy.currentFrame := by
      by_cases h0 : (rget st0 p).disconnected = true
      · unfold pcur
        rw [if_pos h0, if_pos (hm.mono p h0), hm.last]
      · rw [pcur_alive (rget st0 p) _ (by simpa using h0), pcur_eq (rget st1 p) _ fun h1 => hm.last p ▸ hnew p hp (by simpa using h0) h1]
    rw [he]; exact h.sync.live p hp hng
  · intro p hp hd f hlf hfc
    rw [hm.last] at hlf
    by_cases h0 : (rget st0 p).disconnected = true
    · exact h.deadRows p hp h0 f hlf hfc
    · exact absurd (Int.lt_of_lt_of_le hfc (hnew p hp (by simpa using h0) hd))
        (Int.not_lt.mpr (Int.add_one_le_of_lt hlf))

theorem earliest_gt (b : Int) (qs : List InputQueue) (init : Frame) (h0 : init ≠ NULL_FRAME → b < init)
    (hq : ∀ q ∈ qs, q.firstIncorrectFrame ≠ NULL_FRAME → b < q.firstIncorrectFrame)
    (hne : SyncLayer.earliest qs init ≠ NULL_FRAME) : b < SyncLayer.earliest qs init := by
  rcases (SyncLayer.earliest_min qs init).2.2.2 with e | ⟨q, hin, hn, e⟩
  · rw [e] at hne ⊢
    exact h0 hne
  · rw [e]
    exact hq q hin hn

theorem TInvD_load {pr sy st gh t0 reqs} {r : Frame} (h : TInvD pr sy st gh t0 reqs) (h0 : 0 ≤ r)
    (hr : r < sy.currentFrame)
    (hfi : ∀ p, p < sy.queues.length → (rget sy.queues p).firstIncorrectFrame ≠ NULL_FRAME →
      r ≤ (rget sy.queues p).firstIncorrectFrame)
    (hgl : ∀ p, p < sy.queues.length → gh.gone p → (rget st p).lastFrame < r) :
    TInvD pr { sy with currentFrame := r, queues := sy.queues.map InputQueue.resetPrediction } st
      { gh with hists := fun _ => [] } t0 (reqs ++ [.load r]) := by
  have hR : (execReqs t0 (reqs ++ [.load r])).R = (execReqs t0 reqs).R := by
    rw [execReqs_append]; rfl
  refine ⟨⟨h0, by rw [List.length_map]; exact h.sync.nq, ?_, ?_⟩, by rw [execReqs_append]; rfl, ?_, ?_⟩
  · intro p hp hg
    rw [List.length_map] at hp
    have hgo := h.sync.gone p hp hg
    rw [rget_map_lt _ _ _ hp]
    exact ⟨hgo.dead, hgl p hp hg, rfl, hgo.right, refines_reset _ _ hgo.ring⟩
  · intro p hp hng
    rw [List.length_map] at hp
    rw [rget_map_lt _ _ _ hp]
    exact QI_reset pr _ _ _ _ _ _ (h.sync.live p hp hng) (pcur_mono _ (Int.le_of_lt hr))
      fun hne => Int.le_trans (pcur_le _ _) (hfi p hp hne)
  · intro p hp f
    rw [List.length_map] at hp
    rw [hR]
    exact h.rows p hp f
  · intro p hp hd f hlf hfc
    rw [List.length_map] at hp
    rw [hR]
    exact h.deadRows p hp hd f hlf (Int.lt_trans hfc hr)

/-- `adjust_gamestate` with dead players. The invariant before the call may be relative to an older
status list `st0` (players marked since then still count as alive in it); afterwards it holds
relative to the session's list. -/
theorem adjust_specD (s s' : P2P) (firstIncorrect mc : Frame) (t0 : TLState) (reqs reqs' : List Request)
    (gh : DGhost) (st0 : List ConnStatus) (h : TInvD s.pred s.sync st0 gh t0 reqs)
    (hm : Marks st0 s.localConnectStatus)
    (hfi : ∀ p, p < s.sync.queues.length → (rget s.sync.queues p).firstIncorrectFrame ≠ NULL_FRAME →
      firstIncorrect ≤ (rget s.sync.queues p).firstIncorrectFrame)
    (hnew : ∀ p, p < s.sync.queues.length → (rget st0 p).disconnected = false →
      (rget s.localConnectStatus p).disconnected = true →
      s.sync.currentFrame ≤ (rget st0 p).lastFrame + 1 ∨ firstIncorrect ≤ (rget st0 p).lastFrame + 1)
    (hgl : ∀ p, p < s.sync.queues.length → gh.gone p →
      (rget st0 p).lastFrame < (if s.sparse = true then s.sync.lastSavedFrame else firstIncorrect))
    (hadj : s.adjustGamestate firstIncorrect mc reqs = .ok (s', reqs')) :
    ∃ gh' : DGhost, TInvD s.pred s'.sync s.localConnectStatus gh' t0 reqs' ∧ gh'.specs = gh.specs ∧
      gh'.gone = gh.gone ∧
      s' = { s with sync := s'.sync } ∧ s'.sync.currentFrame = s.sync.currentFrame ∧
      s'.sync.queues.length = s.sync.queues.length ∧
      (∀ p, p < s'.sync.queues.length → (rget s.localConnectStatus p).disconnected = false →
        Asked (rget s'.sync.queues p) s'.sync.currentFrame) ∧
      (∀ p, p < s'.sync.queues.length → (rget s'.sync.queues p).firstIncorrectFrame = NULL_FRAME) ∧
      (s'.sync.lastSavedFrame = s.sync.lastSavedFrame ∨
        (if s.sparse = true then s.sync.lastSavedFrame else firstIncorrect) ≤ s'.sync.lastSavedFrame) := by
  obtain ⟨r, sy1, req, sy2, hr, hle', hload, hloop, hcur2, rfl⟩ := P2P.adjustGamestate_ok hadj
  rw [← hr] at hgl ⊢
  obtain ⟨h0, hlt, _, _, rfl, rfl⟩ := SyncLayer.loadFrame_ok hload
  -- first with the statuses the invariant came with, then with the session's, since the players marked
  -- since lie at or beyond `r`
  have hinv1 := TInvD_marks _ _ st0 s.localConnectStatus _ t0 _
    (TInvD_load h h0 hlt (fun p hp hne => Int.le_trans hle' (hfi p hp hne)) hgl) hm fun p hp h0' h1 =>
      (hnew p (Nat.lt_of_lt_of_eq hp (List.length_map _)) h0' h1).elim (Int.le_trans (Int.le_of_lt hlt))
        (Int.le_trans hle')
  obtain ⟨gh', hinv', hsp', hgo', hcur', hql', hcl', hrest, hlsr⟩ := resim_loopD s mc t0 _ 0 _ _ sy2 reqs' _ hinv1
    (fun p hp => by rw [List.length_map] at hp; rw [rget_map_lt _ _ _ hp]; rfl) hloop
  exact ⟨gh', hinv', hsp', hgo', rfl, hcur2, by rw [hql']; exact List.length_map _, hrest (Int.lt_toNat.mpr (Int.sub_pos.mpr hlt)), hcl', hlsr⟩

def TimelineRightD (sy : SyncLayer) (st : List ConnStatus) (gh : DGhost) : Prop :=
  ∀ p, p < sy.queues.length → ∀ f : Nat, (f : Int) < sy.currentFrame → f < (gh.specs p).vals.length →
    ((rget st p).disconnected = true → (f : Int) ≤ (rget st p).lastFrame) →
    gh.T p f = (gh.specs p).vals.getD f 0

theorem timelineRightD_of_clean (pr : Predictor) (sy : SyncLayer) (st : List ConnStatus) (gh : DGhost)
    (h : SyncInvD pr sy st gh)
    (hclean : ∀ p, p < sy.queues.length → (rget sy.queues p).firstIncorrectFrame = NULL_FRAME) :
    TimelineRightD sy st gh := by
  intro p hp f hf hlen hd
  by_cases hg : gh.gone p
  · have hgo := h.gone p hp hg
    exact hgo.right f (hd hgo.dead) hlen
  · have hq := h.live p hp hg
    have hfp : (f : Int) < pcur (rget st p) sy.currentFrame := by
      unfold pcur
      split
      · rename_i hdd
        have := hd hdd
        omega
      · exact hf
    rcases hq.tl.col f hfp with ⟨a, _⟩ | ⟨_, b⟩ | ⟨a, _⟩
    · exact absurd (hclean p hp) a
    · exact b
    · omega

structure SettledD (s s' : P2P) (gh gh' : DGhost) (t0 : TLState) (reqs' : List Request) : Prop where
  inv : TInvD s.pred s'.sync s.localConnectStatus gh' t0 reqs'
  specs : gh'.specs = gh.specs
  gone : gh'.gone = gh.gone
  cur : s'.sync.currentFrame = s.sync.currentFrame
  nq : s'.sync.queues.length = s.sync.queues.length
  asked : ∀ p, p < s'.sync.queues.length → (rget s.localConnectStatus p).disconnected = false →
    Asked (rget s'.sync.queues p) s'.sync.currentFrame
  clean : ∀ p, p < s'.sync.queues.length → (rget s'.sync.queues p).firstIncorrectFrame = NULL_FRAME
  pred : s'.pred = s.pred
  statuses : s'.localConnectStatus = s.localConnectStatus
  sparse : s'.sparse = s.sparse
  rest : s'.handles = s.handles ∧ s'.maxPrediction = s.maxPrediction ∧
    s'.pendingLocalInputs = s.pendingLocalInputs ∧ s'.numPlayers = s.numPlayers
  df : s'.disconnectFrame = NULL_FRAME
  /-- sparse saving: the state to roll back to lies beyond every given-up player's last frame -/
  saved : s.sparse = true → ∀ p, p < s.sync.queues.length → gh.gone p →
    (rget s.localConnectStatus p).lastFrame < s'.sync.lastSavedFrame

/-- The rollback half of `handle_rollback_and_save`; players may have been marked disconnected since
the invariant was last established (`st0`). -/
theorem rollbackIfNeededD (s s' : P2P) (confirmed : Frame) (t0 : TLState) (reqs reqs' : List Request)
    (gh : DGhost) (st0 : List ConnStatus) (h : TInvD s.pred s.sync st0 gh t0 reqs)
    (hm : Marks st0 s.localConnectStatus)
    (hask : ∀ p, p < s.sync.queues.length → (rget s.localConnectStatus p).disconnected = false →
      Asked (rget s.sync.queues p) s.sync.currentFrame)
    (hpend : ∀ p, p < s.sync.queues.length → (rget st0 p).disconnected = false →
      (rget s.localConnectStatus p).disconnected = true →
      s.sync.currentFrame ≤ (rget st0 p).lastFrame + 1 ∨
      (s.disconnectFrame ≠ NULL_FRAME ∧ s.disconnectFrame ≤ (rget st0 p).lastFrame + 1))
    (hsafe : ∀ p, p < s.sync.queues.length → gh.gone p →
      (s.disconnectFrame ≠ NULL_FRAME → (rget st0 p).lastFrame < s.disconnectFrame) ∧
      (∀ q, q < s.sync.queues.length → (rget s.sync.queues q).firstIncorrectFrame ≠ NULL_FRAME →
        (rget st0 p).lastFrame < (rget s.sync.queues q).firstIncorrectFrame) ∧
      (s.sparse = true → (rget st0 p).lastFrame < s.sync.lastSavedFrame))
    (hrb : s.rollbackIfNeeded confirmed reqs = .ok (s', reqs')) :
    ∃ gh', SettledD s s' gh gh' t0 reqs' := by
  have hes := SyncLayer.earliest_spec s.sync.queues s.disconnectFrame
  rw [← SyncLayer.checkSimulationConsistency_eq] at hes
  rcases P2P.rollbackIfNeeded_ok hrb with ⟨h0, rfl, rfl⟩ | ⟨hne, s1, hadj, rfl⟩
  · obtain ⟨hdf, hall⟩ := hes.1.mp h0
    have hinv := TInvD_marks _ _ st0 _ gh t0 _ h hm fun p hp h0' h1 =>
      (hpend p hp h0' h1).resolve_right fun hd => hd.1 hdf
    exact ⟨gh, ⟨hinv, rfl, rfl, rfl, rfl, hask, fun p hp => hall _ (mem_of_rget _ _ hp), rfl, rfl, rfl,
      ⟨rfl, rfl, rfl, rfl⟩, hdf, fun hsp p hp hg => by rw [hm.last]; exact (hsafe p hp hg).2.2 hsp⟩⟩
  · have hgl : ∀ p, p < s.sync.queues.length → gh.gone p →
        (rget st0 p).lastFrame < (if s.sparse = true then s.sync.lastSavedFrame
          else s.sync.checkSimulationConsistency s.disconnectFrame) := by
      intro p hp hg
      obtain ⟨hs1, hs2, hs3⟩ := hsafe p hp hg
      split
      · rename_i hsp
        exact hs3 hsp
      · refine earliest_gt _ s.sync.queues s.disconnectFrame hs1 ?_ hne
        intro q hq hqne
        obtain ⟨i, hi, rfl⟩ := List.getElem_of_mem hq
        have : s.sync.queues[i] = rget s.sync.queues i := by simp [rget, hi]
        rw [this] at hqne ⊢
        exact hs2 i hi hqne
    obtain ⟨gh', hinv, hsp, hgo, hs1, hcur, hnq, hask', hclean, hls⟩ := adjust_specD s s1 _ confirmed t0 reqs reqs' gh st0 h hm
      (fun p hp hne' => (hes.2 hne).2 _ (mem_of_rget _ _ hp) hne')
      (fun p hp h0 h1 => (hpend p hp h0 h1).imp_right fun hd => Int.le_trans ((hes.2 hne).1 hd.1) hd.2) hgl hadj
    obtain ⟨sy, rfl⟩ : ∃ sy, s1 = { s with sync := sy } := ⟨_, hs1⟩
    refine ⟨gh', ⟨hinv, hsp, hgo, hcur, hnq, hask', hclean, rfl, rfl, rfl, ⟨rfl, rfl, rfl, rfl⟩, rfl, ?_⟩⟩
    intro hsp' p hp hg
    rw [if_pos hsp'] at hls
    rw [hm.last]
    exact Int.lt_of_lt_of_le ((hsafe p hp hg).2.2 hsp') (hls.elim (fun hx => Int.le_of_eq hx.symm) id)

theorem SettledD_save (s s1 : P2P) (gh gh1 : DGhost) (t0 : TLState) (reqs1 : List Request) (sy : SyncLayer) (r : Request)
    (h : SettledD s s1 gh gh1 t0 reqs1) (hsv : s1.sync.saveCurrentState = .ok (sy, r)) :
    SettledD s { s1 with sync := sy } gh gh1 t0 (reqs1 ++ [r]) := by
  obtain ⟨_, rfl, rfl⟩ := SyncLayer.saveCurrentState_ok hsv
  exact ⟨TInvD_congr h.inv rfl rfl (execReqs_append _ _ _), h.specs, h.gone, h.cur, h.nq, h.asked, h.clean, h.pred,
    h.statuses, h.sparse, h.rest, h.df, fun _ p hp hg => (h.inv.sync.gone p (h.nq ▸ hp) (h.gone ▸ hg)).lt⟩

theorem SettledD_trans (s s1 s2 : P2P) (gh gh1 gh2 : DGhost) (t0 : TLState) (reqs1 reqs2 : List Request)
    (h1 : SettledD s s1 gh gh1 t0 reqs1) (h2 : SettledD s1 s2 gh1 gh2 t0 reqs2) :
    SettledD s s2 gh gh2 t0 reqs2 := by
  refine ⟨by have := h2.inv; rw [h1.pred, h1.statuses] at this; exact this, h2.specs.trans h1.specs,
    h2.gone.trans h1.gone, h2.cur.trans h1.cur, h2.nq.trans h1.nq,
    by have := h2.asked; rw [h1.statuses] at this; exact this, h2.clean,
    h2.pred.trans h1.pred, h2.statuses.trans h1.statuses, h2.sparse.trans h1.sparse,
    ⟨h2.rest.1.trans h1.rest.1, h2.rest.2.1.trans h1.rest.2.1, h2.rest.2.2.1.trans h1.rest.2.2.1,
     h2.rest.2.2.2.trans h1.rest.2.2.2⟩, h2.df, ?_⟩
  intro hsp p hp hg
  have := h2.saved (by rw [h1.sparse]; exact hsp) p (by rw [h1.nq]; exact hp) (by rw [h1.gone]; exact hg)
  rw [h1.statuses] at this
  exact this

theorem saveAfterRollbackD (s s1 s' : P2P) (confirmed : Frame) (t0 : TLState) (reqs1 reqs' : List Request)
    (gh gh1 : DGhost) (h : SettledD s s1 gh gh1 t0 reqs1)
    (hsv : s1.saveAfterRollback confirmed reqs1 = .ok (s', reqs')) :
    ∃ gh', SettledD s s' gh gh' t0 reqs' := by
  rcases P2P.saveAfterRollback_ok hsv with ⟨_, _, rfl, rfl⟩ | ⟨_, sy, r, hs3, rfl, rfl⟩ | ⟨hsp, _, _, hsr⟩
  · exact ⟨gh1, h⟩
  · exact ⟨gh1, SettledD_save s s1 gh gh1 t0 reqs1 sy r h hs3⟩
  -- sparse saving, the saved state is too old: roll back to it (nothing is incorrect, nothing pending)
  have hsaved : ∀ p, p < s1.sync.queues.length → gh1.gone p →
      (rget s1.localConnectStatus p).lastFrame < s1.sync.lastSavedFrame := fun p hp hg => by
    rw [h.statuses]
    exact h.saved (h.sparse ▸ hsp) p (h.nq ▸ hp) (h.gone ▸ hg)
  obtain ⟨gh2, hinv, hsp2, hgo2, hs2, hcur, hnq, hask', hclean, hls⟩ :=
    adjust_specD s1 s' _ confirmed t0 reqs1 reqs' gh1 s1.localConnectStatus (by rw [h.pred, h.statuses]; exact h.inv)
      (Marks.refl _) (fun p hp hne' => absurd (h.clean p hp) hne') (fun p _ h0 h1 => by rw [h0] at h1; cases h1)
      (fun p hp hg => by rw [if_pos hsp]; exact hsaved p hp hg) hsr
  obtain ⟨sy, rfl⟩ : ∃ sy, s' = { s1 with sync := sy } := ⟨_, hs2⟩
  refine ⟨gh2, SettledD_trans s s1 _ gh gh1 gh2 t0 reqs1 reqs' h
    ⟨hinv, hsp2, hgo2, hcur, hnq, hask', hclean, rfl, rfl, rfl, ⟨rfl, rfl, rfl, rfl⟩, h.df, fun _ p hp hg => ?_⟩⟩
  rw [if_pos hsp] at hls
  exact Int.lt_of_lt_of_le (hsaved p hp hg) (hls.elim (fun hx => Int.le_of_eq hx.symm) id)

theorem handleRollbackAndSaveD (s s' : P2P) (confirmed : Frame) (t0 : TLState) (reqs reqs' : List Request)
    (gh : DGhost) (st0 : List ConnStatus) (h : TInvD s.pred s.sync st0 gh t0 reqs)
    (hm : Marks st0 s.localConnectStatus)
    (hask : ∀ p, p < s.sync.queues.length → (rget s.localConnectStatus p).disconnected = false →
      Asked (rget s.sync.queues p) s.sync.currentFrame)
    (hpend : ∀ p, p < s.sync.queues.length → (rget st0 p).disconnected = false →
      (rget s.localConnectStatus p).disconnected = true →
      s.sync.currentFrame ≤ (rget st0 p).lastFrame + 1 ∨
      (s.disconnectFrame ≠ NULL_FRAME ∧ s.disconnectFrame ≤ (rget st0 p).lastFrame + 1))
    (hsafe : ∀ p, p < s.sync.queues.length → gh.gone p →
      (s.disconnectFrame ≠ NULL_FRAME → (rget st0 p).lastFrame < s.disconnectFrame) ∧
      (∀ q, q < s.sync.queues.length → (rget s.sync.queues q).firstIncorrectFrame ≠ NULL_FRAME →
        (rget st0 p).lastFrame < (rget s.sync.queues q).firstIncorrectFrame) ∧
      (s.sparse = true → (rget st0 p).lastFrame < s.sync.lastSavedFrame))
    (hrs : s.handleRollbackAndSave confirmed reqs = .ok (s', reqs')) :
    ∃ gh', SettledD s s' gh gh' t0 reqs' ∧ TimelineRightD s'.sync s.localConnectStatus gh' := by
  obtain ⟨s1, reqs1, hrb, hsv⟩ := P2P.handleRollbackAndSave_ok hrs
  obtain ⟨gh1, h1⟩ := rollbackIfNeededD s s1 confirmed t0 reqs reqs1 gh st0 h hm hask hpend hsafe hrb
  obtain ⟨gh', h'⟩ := saveAfterRollbackD s s1 s' confirmed t0 reqs1 reqs' gh gh1 h1 hsv
  exact ⟨gh', h', timelineRightD_of_clean s.pred _ s.localConnectStatus gh' h'.inv.sync h'.clean⟩

end Ggrs
