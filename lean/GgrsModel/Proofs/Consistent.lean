/-
C02 without sparse saving: the request list of every rollback-mode `advance_frame` call passes the
frame-consistency check `ChkList` from a quiescent check state and leaves one. `chk_resim_of` and
`chk_gate` are stated for any saving policy and serve sparse saving as well.
-/
import GgrsModel.Proofs.Replay
import GgrsModel.Proofs.Shape

namespace Ggrs

/-- Quiescent check state (between calls): every written cell holds a state of the current timeline. -/
structure QInv (n : Nat) (c : CS) : Prop where
  cur : 0 ≤ c.cur
  ok : ∀ i, i < n → 0 ≤ c.tag i → c.valid i ∧ c.tag i ≤ c.cur ∧ (c.tag i).toNat % n = i

/-- Inside the re-simulation, at frame `c'` with loop counter `i`, on the way back to `cmax`. -/
structure LInvC (n : Nat) (i : Nat) (c' cmax : Int) (c : CS) : Prop where
  cur : c.cur = c'
  nonneg : 0 ≤ c'
  ok : ∀ idx, idx < n → 0 ≤ c.tag idx → c.tag idx ≤ cmax ∧ (c.tag idx).toNat % n = idx ∧
    (c.tag idx < c' → c.valid idx) ∧ (i = 0 → c.valid idx)

theorem LInvC_save {n i : Nat} {c' cmax : Int} {c : CS} (h : LInvC n i c' cmax c) (hle : c' ≤ cmax) :
    LInvC n i c' cmax (c.saved n c') := by
  refine ⟨h.cur, h.nonneg, fun idx hidx htag => ?_⟩
  show upd c.tag (c'.toNat % n) c' idx ≤ cmax ∧ (upd c.tag (c'.toNat % n) c' idx).toNat % n = idx ∧
    (upd c.tag (c'.toNat % n) c' idx < c' → idx = c'.toNat % n ∨ c.valid idx) ∧ (i = 0 → idx = c'.toNat % n ∨ c.valid idx)
  have htag' : 0 ≤ upd c.tag (c'.toNat % n) c' idx := htag
  by_cases hie : idx = c'.toNat % n
  · rw [hie, upd_self]
    exact ⟨hle, rfl, fun _ => Or.inl rfl, fun _ => Or.inl rfl⟩
  · rw [upd_ne _ _ _ _ hie] at htag' ⊢
    obtain ⟨a, b, d, e⟩ := h.ok idx hidx htag'
    exact ⟨a, b, fun hlt => Or.inr (d hlt), fun h0 => Or.inr (e h0)⟩

theorem LInvC_advance {n i : Nat} {c' cmax : Int} {c : CS} (h : LInvC n i c' cmax c)
    (hv : ∀ idx, idx < n → c.tag idx = c' → c.valid idx) : LInvC n (i + 1) (c' + 1) cmax c.advanced := by
  have hc0 := h.nonneg
  refine ⟨by show c.cur + 1 = c' + 1; rw [h.cur], by omega, fun idx hidx htag => ?_⟩
  obtain ⟨a, b, d, _⟩ := h.ok idx hidx htag
  refine ⟨a, b, fun hlt => ?_, fun h0 => by omega⟩
  have hlt' : c.tag idx < c' + 1 := hlt
  refine ⟨?_, by show c.tag idx ≤ c.cur; rw [h.cur]; omega⟩
  by_cases he : c.tag idx = c'
  · exact hv idx hidx he
  · exact d (by omega)

theorem LInvC_save_advance {n i : Nat} {c' cmax : Int} {c : CS} (h : LInvC n i c' cmax c) (hlt : c' < cmax) :
    LInvC n (i + 1) (c' + 1) cmax (c.saved n c').advanced := by
  have hs := LInvC_save h (by omega : c' ≤ cmax)
  refine LInvC_advance hs fun idx hidx ht => Or.inl ?_
  rw [← (hs.ok idx hidx (by rw [ht]; exact h.nonneg)).2.1, ht]

/-- Checking a re-simulation under any saving policy: `I i L c' c` (loop counter, last saved frame, frame,
check state) need only survive the steps the policy allows. -/
theorem chk_resim_of (n : Nat) (sparse : Bool) (cmax : Int) (I : Nat → Int → Int → CS → Prop)
    (hcur : ∀ i L c' c, I i L c' c → c.cur = c' ∧ 0 ≤ c')
    (hadv : ∀ i L c' c, I i L c' c → c' < cmax → (sparse = false → i = 0) → I (i + 1) L (c' + 1) c.advanced)
    (hsave : ∀ i L c' c, I i L c' c → c' < cmax → (sparse = false → 0 < i) →
      I (i + 1) c' (c' + 1) (c.saved n c').advanced) :
    ∀ (k i : Nat) (L c' : Int) (c : CS) (Lst : List Request), ResimShape sparse i c' k Lst → I i L c' c →
      c' + (k : Int) = cmax → ∃ c2, ChkList n c Lst c2 ∧ I (i + k) (lastSaveOf L Lst) cmax c2 := by
  intro k
  induction k with
  | zero =>
    intro i L c' c Lst hsh hinv hk
    simp only [ResimShape] at hsh
    subst hsh
    have : c' = cmax := by omega
    subst this
    exact ⟨c, ChkList.nil c, hinv⟩
  | succ k ih =>
    intro i L c' c Lst hsh hinv hk
    simp only [ResimShape] at hsh
    obtain ⟨mid, ins, L', rfl, hmid, hns, hsh'⟩ := hsh
    obtain ⟨hc, h0⟩ := hcur i L c' c hinv
    have hc0 : 0 ≤ c.cur := by rw [hc]; exact h0
    have e : i + 1 + k = i + (k + 1) := by omega
    rw [← e]
    rcases hmid with rfl | rfl
    · have hinv1 := hadv i L c' c hinv (by omega) fun hf =>
        Nat.eq_zero_of_not_pos fun hp => nomatch (hns hf).2 hp
      obtain ⟨c2, hl2, hinv2⟩ := ih (i + 1) L (c' + 1) _ L' hsh' hinv1 (by omega)
      exact ⟨c2, ChkList.cons c _ c2 _ _ (Chk.advance c ins hc0) hl2, hinv2⟩
    · have hinv1 := hsave i L c' c hinv (by omega) fun hf =>
        Nat.pos_of_ne_zero fun hz => nomatch (hns hf).1 hz
      obtain ⟨c2, hl2, hinv2⟩ := ih (i + 1) c' (c' + 1) _ L' hsh' hinv1 (by omega)
      exact ⟨c2, ChkList.cons c _ c2 _ _ (Chk.save c c' hc.symm h0)
        (ChkList.cons _ _ c2 _ _ (Chk.advance _ ins hc0) hl2), hinv2⟩

theorem chk_resim (n : Nat) (hn : 0 < n) : ∀ (k i : Nat) (c' cmax : Int) (c : CS) (L : List Request),
    ResimShape false i c' k L → LInvC n i c' cmax c → c' + (k : Int) = cmax →
    ∃ c2, ChkList n c L c2 ∧ LInvC n (i + k) cmax cmax c2 :=
  fun k i c' cmax c L hsh hinv hk =>
    chk_resim_of n false cmax (fun i _ c' c => LInvC n i c' cmax c) (fun _ _ _ _ h => ⟨h.cur, h.nonneg⟩)
      -- the frame just loaded, `i = 0`, is not saved: every cell is still valid
      (fun _ _ _ _ h _ hi => LInvC_advance h fun idx hidx ht =>
        (h.ok idx hidx (by rw [ht]; exact h.nonneg)).2.2.2 (hi rfl))
      (fun _ _ _ _ h hlt _ => LInvC_save_advance h hlt) k i 0 c' c L hsh hinv hk

def tagsAfter (n : Nat) (tag : Nat → Int) : List Request → Nat → Int
  | [] => tag
  | .save f :: rs => tagsAfter n (upd tag (f.toNat % n) f) rs
  | _ :: rs => tagsAfter n tag rs

theorem chk_tags (n : Nat) (c c' : CS) (rs : List Request) (h : ChkList n c rs c') :
    c'.tag = tagsAfter n c.tag rs := by
  induction h with
  | nil c => rfl
  | cons c c1 c2 r rs hr _ ih => cases hr <;> exact ih

theorem LInvC_of_QInv {n : Nat} {c : CS} (i : Nat) (r : Int) (h : QInv n c) (hr : 0 ≤ r) :
    LInvC n i r c.cur { c with cur := r } :=
  ⟨rfl, hr, fun idx hidx htag => by
    obtain ⟨a, b, d⟩ := h.ok idx hidx htag
    exact ⟨b, d, fun _ => a, fun _ => a⟩⟩

theorem QInv_of_LInvC_save {n i : Nat} {cur : Int} {c : CS} (h : LInvC n i cur cur c) : QInv n (c.saved n cur) := by
  obtain hc := h.cur
  subst hc
  have hs := LInvC_save h (Int.le_refl _)
  refine ⟨h.nonneg, fun idx hidx htag => ?_⟩
  obtain ⟨a, b, d, _⟩ := hs.ok idx hidx htag
  refine ⟨?_, a, b⟩
  have hle : upd c.tag (c.cur.toNat % n) c.cur idx ≤ c.cur := a
  by_cases he : upd c.tag (c.cur.toNat % n) c.cur idx = c.cur
  · exact Or.inl (by rw [← b]; exact congrArg (fun t : Int => t.toNat % n) he)
  · exact d (show upd c.tag (c.cur.toNat % n) c.cur idx < c.cur by omega)

theorem QInv_save (n : Nat) (c : CS) (h : QInv n c) :
    QInv n { c with tag := upd c.tag (c.cur.toNat % n) c.cur, valid := fun i => i = c.cur.toNat % n ∨ c.valid i } :=
  QInv_of_LInvC_save (LInvC_of_QInv 0 c.cur h h.cur)

theorem QInv_advance (n : Nat) (c : CS) (h : QInv n c) : QInv n c.advanced := by
  refine ⟨by show 0 ≤ c.cur + 1; have := h.cur; omega, ?_⟩
  intro i hi htag
  obtain ⟨a, b, d⟩ := h.ok i hi htag
  exact ⟨⟨a, b⟩, by show c.tag i ≤ c.cur + 1; omega, d⟩

theorem chk_rollback_ns (cells : List Cell) (hn : 0 < cells.length) (c : CS) (hq : QInv cells.length c)
    (htags : 0 < c.cur → ∀ i, i < cells.length → c.tag i = (rget cells i).frame) (r : Frame) (B : List Request)
    (hB : Rollback false cells c.cur r B) :
    ∃ i c1, ChkList cells.length c B c1 ∧ LInvC cells.length i c.cur c.cur c1 := by
  obtain ⟨L, rfl, hr0, hlt, hcell, hsh⟩ := hB
  have hidx := Nat.mod_lt r.toNat hn
  have htr : c.tag (r.toNat % cells.length) = r := by rw [htags (by omega) _ hidx]; exact hcell
  have hval := (hq.ok _ hidx (by rw [htr]; exact hr0)).1
  obtain ⟨c1, hl1, hinv1⟩ := chk_resim _ hn _ 0 r c.cur _ L hsh (LInvC_of_QInv 0 r hq hr0) (by omega)
  exact ⟨_, c1, ChkList.cons c _ c1 _ _ (Chk.load c r hr0 hlt htr hval) hl1, hinv1⟩

/-- The prediction gate's AdvanceFrame at the end of a call, for any invariant an AdvanceFrame keeps. -/
theorem chk_gate (n : Nat) (I : CS → Prop) (hI : ∀ c, I c → I c.advanced)
    (c c2 : CS) (A G : List Request) (cur cur' : Int) (hl : ChkList n c A c2) (hq : I c2) (hc2 : c2.cur = cur)
    (h0 : 0 ≤ cur) (hg : (G = [] ∧ cur' = cur) ∨ ∃ ins, G = [.advance ins] ∧ cur' = cur + 1) :
    ∃ c', ChkList n c (A ++ G) c' ∧ I c' ∧ c'.cur = cur' ∧ (cur' = cur ∨ cur' = cur + 1) := by
  rcases hg with ⟨rfl, rfl⟩ | ⟨ins, rfl, rfl⟩
  · exact ⟨c2, by rw [List.append_nil]; exact hl, hq, hc2, Or.inl rfl⟩
  · have hadv := Chk.advance (n := n) c2 ins (by rw [hc2]; exact h0)
    exact ⟨_, ChkList_append n c c2 _ _ _ hl (ChkList.cons c2 _ _ _ _ hadv (ChkList.nil _)), hI c2 hq,
      by show c2.cur + 1 = _; rw [hc2], Or.inr rfl⟩

/-- C02, one call without sparse saving: from a quiescent check state whose tags are the cells' tags, the
requests the call appends pass the check and leave a quiescent check state at the session's new frame. -/
theorem tick_consistent_ns (s s' : P2P) (now : Nat) (reqs reqs' : List Request) (hns : s.sparse = false)
    (h : s.advanceRollbackFrame now reqs = .ok (s', reqs')) (c : CS) (hn : 0 < s.sync.cells.length)
    (hq : QInv s.sync.cells.length c) (hcur : c.cur = s.sync.currentFrame)
    (htags : 0 < s.sync.currentFrame → ∀ i, i < s.sync.cells.length → c.tag i = (rget s.sync.cells i).frame) :
    ∃ (new : List Request) (c' : CS), reqs' = reqs ++ new ∧ ChkList s.sync.cells.length c new c' ∧
      QInv s.sync.cells.length c' ∧ c'.cur = s'.sync.currentFrame ∧
      (s'.sync.currentFrame = s.sync.currentFrame ∨ s'.sync.currentFrame = s.sync.currentFrame + 1) ∧
      s'.sync.cells = s.sync.cells ∧ s'.sparse = s.sparse := by
  obtain ⟨B1, B2, G, rfl, hb1, hb2, hg, _, hcl, hsp, _⟩ := tick_shape s s' now reqs reqs' h
  rw [hns] at hb1 hb2
  rw [← hcur] at hb1 hb2 hg htags
  rcases hb2 with ⟨rfl, h0⟩ | ⟨hf, _⟩
  · have h1 : ∃ i c1, ChkList s.sync.cells.length c B1 c1 ∧ LInvC s.sync.cells.length i c.cur c.cur c1 := by
      rcases hb1 with rfl | ⟨r, hrb, _⟩
      · exact ⟨0, c, ChkList.nil c, LInvC_of_QInv 0 c.cur hq h0⟩
      · exact chk_rollback_ns s.sync.cells hn c hq htags r B1 hrb
    obtain ⟨i, c1, hl1, hinv1⟩ := h1
    have hsave := Chk.save (n := s.sync.cells.length) c1 c.cur hinv1.cur.symm h0
    obtain ⟨c', hl, hq', hc', hor⟩ := chk_gate _ (QInv s.sync.cells.length) (QInv_advance _) c _ _ G c.cur
      s'.sync.currentFrame (ChkList_append _ c c1 _ _ _ hl1 (ChkList.cons c1 _ _ _ _ hsave (ChkList.nil _)))
      (QInv_of_LInvC_save hinv1) hinv1.cur h0 hg
    rw [hcur] at hor
    exact ⟨_, c', by simp only [List.append_assoc], hl, hq', hc', hor, hcl, hsp⟩
  · cases hf

end Ggrs
