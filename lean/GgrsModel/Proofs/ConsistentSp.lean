/-
C02 with sparse saving: every load names the last saved frame, whose cell is always valid.
-/
import GgrsModel.Proofs.Consistent

namespace Ggrs

/-- Check state with sparse saving; the ghost `L` is the last saved frame. -/
structure SQInv (n : Nat) (c : CS) (L : Int) : Prop where
  cur : 0 ≤ c.cur
  le : L ≤ c.cur
  last : 0 ≤ L → c.tag (L.toNat % n) = L
  ok : ∀ i, i < n → 0 ≤ c.tag i → c.valid i ∧ c.tag i ≤ L ∧ (c.tag i).toNat % n = i

theorem SQInv_save (n : Nat) (c : CS) (L : Int) (h : SQInv n c L) :
    SQInv n { c with tag := upd c.tag (c.cur.toNat % n) c.cur, valid := fun i => i = c.cur.toNat % n ∨ c.valid i } c.cur := by
  have hle := h.le
  refine ⟨h.cur, Int.le_refl _, fun _ => upd_self _ _ _, fun i hi htag => ?_⟩
  show (i = c.cur.toNat % n ∨ c.valid i) ∧ upd c.tag (c.cur.toNat % n) c.cur i ≤ c.cur ∧
    (upd c.tag (c.cur.toNat % n) c.cur i).toNat % n = i
  have htag' : 0 ≤ upd c.tag (c.cur.toNat % n) c.cur i := htag
  by_cases hie : i = c.cur.toNat % n
  · rw [hie, upd_self]
    exact ⟨Or.inl rfl, Int.le_refl _, rfl⟩
  · rw [upd_ne _ _ _ _ hie] at htag' ⊢
    obtain ⟨a, b, d⟩ := h.ok i hi htag'
    exact ⟨Or.inr a, by omega, d⟩

theorem SQInv_advance (n : Nat) (c : CS) (L : Int) (h : SQInv n c L) : SQInv n c.advanced L := by
  have hc := h.cur
  have hle := h.le
  refine ⟨by show 0 ≤ c.cur + 1; omega, by show L ≤ c.cur + 1; omega, h.last, ?_⟩
  intro i hi htag
  obtain ⟨a, b, d⟩ := h.ok i hi htag
  exact ⟨⟨a, by omega⟩, b, d⟩

theorem chk_resim_sp (n : Nat) (k i : Nat) (c' : Int) (c : CS) (L : Int) (Lst : List Request)
    (hsh : ResimShape true i c' k Lst) (hinv : SQInv n c L) (hc : c.cur = c') :
    ∃ c2, ChkList n c Lst c2 ∧ SQInv n c2 (lastSaveOf L Lst) ∧ c2.cur = c' + k :=
  chk_resim_of n true (c' + k) (fun _ L c' c => SQInv n c L ∧ c.cur = c') (fun _ _ _ _ h => ⟨h.2, h.2 ▸ h.1.cur⟩)
    (fun _ L c' c h _ _ => ⟨SQInv_advance n c L h.1, by show c.cur + 1 = c' + 1; rw [h.2]⟩)
    (fun _ L c' c h _ _ => by
      obtain ⟨h, rfl⟩ := h
      exact ⟨SQInv_advance n _ _ (SQInv_save n c L h), rfl⟩)
    k i L c' c Lst hsh ⟨hinv, hc⟩ rfl

theorem chk_rollback_sp (n : Nat) (hn : 0 < n) (c : CS) (L : Int) (cells : List Cell) (B : List Request)
    (hinv : SQInv n c L) (hB : Rollback true cells c.cur L B) :
    ∃ c2, ChkList n c B c2 ∧ SQInv n c2 (lastSaveOf L B) ∧ c2.cur = c.cur := by
  obtain ⟨L1, rfl, h0, hlt, _, hsh⟩ := hB
  have htag := hinv.last h0
  have hval := (hinv.ok _ (Nat.mod_lt _ hn) (by rw [htag]; exact h0)).1
  have hinv0 : SQInv n { c with cur := L } L := ⟨h0, Int.le_refl _, hinv.last, hinv.ok⟩
  obtain ⟨c2, hl2, hinv2, hc2⟩ := chk_resim_sp n _ 0 L _ L L1 hsh hinv0 rfl
  exact ⟨c2, ChkList.cons c _ c2 _ _ (Chk.load c L h0 hlt htag hval) hl2, hinv2, by rw [hc2]; omega⟩

/-- C02, one call with sparse saving: `SQInv` for the session's `last_saved_frame` is kept and the requests
appended pass the check. Unlike `tick_consistent_ns` nothing is assumed about the cells' tags: every load
names `last_saved_frame`, and `SQInv.last` says what its cell holds. -/
theorem tick_consistent_sp (s s' : P2P) (now : Nat) (reqs reqs' : List Request) (hsp : s.sparse = true)
    (h : s.advanceRollbackFrame now reqs = .ok (s', reqs')) (c : CS) (n : Nat) (hn : 0 < n)
    (hq : SQInv n c s.sync.lastSavedFrame) (hcur : c.cur = s.sync.currentFrame) :
    ∃ (new : List Request) (c' : CS), reqs' = reqs ++ new ∧ ChkList n c new c' ∧
      SQInv n c' s'.sync.lastSavedFrame ∧ c'.cur = s'.sync.currentFrame ∧
      (s'.sync.currentFrame = s.sync.currentFrame ∨ s'.sync.currentFrame = s.sync.currentFrame + 1) ∧
      s'.sync.cells = s.sync.cells ∧ s'.sparse = s.sparse := by
  obtain ⟨B1, B2, G, rfl, hb1, hb2, hg, hls, hcl, hspp, _⟩ := tick_shape s s' now reqs reqs' h
  rw [hsp] at hb1
  rw [← hcur] at hb1 hb2 hg
  have h1 : ∃ c1, ChkList n c B1 c1 ∧ SQInv n c1 (lastSaveOf s.sync.lastSavedFrame B1) ∧ c1.cur = c.cur := by
    rcases hb1 with rfl | ⟨r, hrb, hr⟩
    · exact ⟨c, ChkList.nil c, hq, rfl⟩
    · rw [hr rfl] at hrb
      exact chk_rollback_sp n hn c _ _ B1 hq hrb
  obtain ⟨c1, hl1, hq1, hc1⟩ := h1
  have h2 : ∃ c2, ChkList n c1 B2 c2 ∧ SQInv n c2 (lastSaveOf s.sync.lastSavedFrame (B1 ++ B2)) ∧ c2.cur = c.cur := by
    rw [lastSaveOf_append, ← hc1]
    rw [← hc1] at hb2
    rcases hb2 with ⟨rfl, _⟩ | ⟨_, rfl | hrb⟩
    · exact ⟨_, ChkList.cons c1 _ _ _ _ (Chk.save c1 c1.cur rfl hq1.cur) (ChkList.nil _), SQInv_save n c1 _ hq1, rfl⟩
    · exact ⟨c1, ChkList.nil c1, hq1, rfl⟩
    · exact chk_rollback_sp n hn c1 _ _ B2 hq1 hrb
  obtain ⟨c2, hl2, hq2, hc2⟩ := h2
  rw [← hls] at hq2
  obtain ⟨c', hl, hq', hc', hor⟩ := chk_gate n (SQInv n · s'.sync.lastSavedFrame) (fun c => SQInv_advance n c _) c c2
    (B1 ++ B2) G c.cur s'.sync.currentFrame (ChkList_append n c c1 c2 _ _ hl1 hl2) hq2 hc2 (hcur ▸ hq.cur) hg
  rw [hcur] at hor
  exact ⟨_, c', by simp only [List.append_assoc], hl, hq', hc', hor, hcl, hspp⟩

end Ggrs
