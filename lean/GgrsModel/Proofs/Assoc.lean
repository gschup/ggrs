/-
Association lists with `Int` keys (`alookup`, `ainsert`), for any type of values.
-/
import GgrsModel.Model.Basic

namespace Ggrs

theorem alookup_cons {β} (f k : Int) (v : β) (l : List (Int × β)) :
    alookup f ((k, v) :: l) = if k = f then some v else alookup f l := by
  by_cases h : k = f <;> simp [alookup, h]

theorem alookup_filter_key {β} (keep : Int → Bool) (f : Int) : ∀ (l : List (Int × β)),
    alookup f (l.filter fun p => keep p.1) = if keep f then alookup f l else none
  | [] => by simp [alookup]
  | (k, v) :: xs => by
    have ih := alookup_filter_key keep f xs
    by_cases hk : keep k = true
    · rw [List.filter_cons_of_pos (by exact hk), alookup_cons, alookup_cons, ih]
      by_cases hkf : k = f
      · rw [if_pos hkf, if_pos hkf, ← hkf, if_pos hk]
      · rw [if_neg hkf, if_neg hkf]
    · rw [List.filter_cons_of_neg (by exact hk), alookup_cons, ih]
      by_cases hkf : k = f
      · rw [← hkf, if_neg hk, if_neg hk]
      · rw [if_neg hkf]

theorem alookup_ainsert {β} (k j : Int) (v : β) (l : List (Int × β)) :
    alookup j (ainsert k v l) = if k = j then some v else alookup j l := by
  fun_induction ainsert k v l with
  | case1 => rw [alookup_cons]
  | case2 => rw [alookup_cons]
  | case3 k' v' rest _ heq =>
    obtain rfl : k = k' := eq_of_beq heq
    rw [alookup_cons, alookup_cons]
    split <;> rfl
  | case4 k' v' rest _ hne ih =>
    have hk : k' ≠ k := fun e => hne (beq_iff_eq.mpr e.symm)
    rw [alookup_cons, alookup_cons, ih]
    by_cases hj : k = j
    · subst hj
      rw [if_neg hk, if_pos rfl, if_pos rfl]
    · rw [if_neg hj, if_neg hj]

theorem alookup_ainsert_self {β} (k : Int) (v : β) (l : List (Int × β)) :
    alookup k (ainsert k v l) = some v := by
  rw [alookup_ainsert, if_pos rfl]

theorem alookup_ainsert_ne {β} (k j : Int) (v : β) (hj : j ≠ k) (l : List (Int × β)) :
    alookup j (ainsert k v l) = alookup j l := by
  rw [alookup_ainsert, if_neg (Ne.symm hj)]

theorem mem_ainsert_sub {β} (k : Int) (v : β) (l : List (Int × β)) (p : Int × β)
    (hp : p ∈ ainsert k v l) : p = (k, v) ∨ p ∈ l := by
  fun_induction ainsert k v l with
  | case1 => exact Or.inl (List.mem_singleton.mp hp)
  | case2 => exact List.mem_cons.mp hp
  | case3 => exact (List.mem_cons.mp hp).imp_right (List.mem_cons_of_mem _)
  | case4 _ _ _ _ _ ih =>
    rcases List.mem_cons.mp hp with h | h
    · exact Or.inr (h ▸ List.mem_cons_self)
    · exact (ih h).imp_right (List.mem_cons_of_mem _)

theorem self_mem_ainsert {β} (k : Int) (v : β) (l : List (Int × β)) : (k, v) ∈ ainsert k v l := by
  fun_induction ainsert k v l with
  | case1 | case2 | case3 => exact List.mem_cons_self
  | case4 _ _ _ _ _ ih => exact List.mem_cons_of_mem _ ih

theorem key_mem_ainsert {β} (k : Int) (v : β) (l : List (Int × β)) (q : Int × β) (hq : q ∈ l) :
    ∃ p ∈ ainsert k v l, p.1 = q.1 := by
  fun_induction ainsert k v l with
  | case1 => cases hq
  | case2 => exact ⟨q, List.mem_cons_of_mem _ hq, rfl⟩
  | case3 _ _ _ _ heq =>
    rcases List.mem_cons.mp hq with rfl | hin
    · exact ⟨(k, v), List.mem_cons_self, eq_of_beq heq⟩
    · exact ⟨q, List.mem_cons_of_mem _ hin, rfl⟩
  | case4 _ _ _ _ _ ih =>
    rcases List.mem_cons.mp hq with rfl | hin
    · exact ⟨_, List.mem_cons_self, rfl⟩
    · obtain ⟨p, hp, hpe⟩ := ih hin
      exact ⟨p, List.mem_cons_of_mem _ hp, hpe⟩

theorem ainsert_ne_nil {β} (k : Int) (v : β) (l : List (Int × β)) : ainsert k v l ≠ [] :=
  List.ne_nil_of_mem (self_mem_ainsert k v l)

theorem alookup_filter {β} (j : Int) (keep : Int → Bool) (hj : keep j = true) (l : List (Int × β)) :
    alookup j (l.filter fun p => keep p.1) = alookup j l := by
  rw [alookup_filter_key, if_pos hj]

theorem alookup_some_mem {β} (l : List (Int × β)) (j : Int) (b : β) (h : alookup j l = some b) :
    (j, b) ∈ l := by
  induction l with
  | nil => cases h
  | cons x xs ih =>
    obtain ⟨k', v'⟩ := x
    simp only [alookup] at h
    split at h
    · next hk =>
      cases h
      rw [← (beq_iff_eq.mp hk)]
      exact List.mem_cons_self
    · exact List.mem_cons_of_mem _ (ih h)

end Ggrs
