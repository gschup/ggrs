/-
Delta layer (length-prefixed XOR against the previous input); bounds and absence of panics in the decoder.
-/
import GgrsModel.Proofs.Rle

namespace Ggrs.Codec

theorem xorWithBase_length : ∀ (b x : Bytes), (xorWithBase b x).length = x.length := by
  intro b
  induction b with
  | nil => intro x; simp [xorWithBase]
  | cons b bs ih =>
    intro x
    cases x with
    | nil => simp [xorWithBase]
    | cons y ys => simp [xorWithBase, ih]

theorem xor_cancel (a b : UInt8) : (a ^^^ b) ^^^ a = b := by
  rw [UInt8.xor_comm a b, UInt8.xor_assoc, UInt8.xor_self, UInt8.xor_zero]

theorem xorInPlace_xorWithBase : ∀ (b x : Bytes), xorInPlace (xorWithBase b x) b = x := by
  intro b
  induction b with
  | nil => intro x; cases x <;> simp [xorWithBase, xorInPlace]
  | cons b bs ih =>
    intro x
    cases x with
    | nil => simp [xorWithBase, xorInPlace]
    | cons y ys => simp [xorWithBase, xorInPlace, ih, xor_cancel]

theorem u16le_decode (n : Nat) (h : n ≤ 65535) :
    (UInt8.ofNat (n % 256)).toNat + 256 * (UInt8.ofNat (n / 256 % 256)).toNat = n := by
  rw [UInt8.toNat_ofNat', UInt8.toNat_ofNat']
  show n % 256 % 256 + 256 * (n / 256 % 256 % 256) = n
  rw [Nat.mod_mod, Nat.mod_mod, Nat.mod_eq_of_lt (Nat.div_lt_of_lt_mul (Nat.lt_succ_of_le h)), Nat.mod_add_div]

/-- Number of bytes `delta_encode` writes for a list of inputs. -/
def encodedSize : List Bytes → Nat
  | [] => 0
  | x :: xs => 2 + x.length + encodedSize xs

theorem encodedSize_append (a b : List Bytes) : encodedSize (a ++ b) = encodedSize a + encodedSize b := by
  induction a with
  | nil => simp [encodedSize]
  | cons x xs ih => simp [encodedSize, ih]; omega

theorem deltaEncode_length : ∀ (xs : List Bytes) (base : Bytes),
    (deltaEncode base xs).length = encodedSize xs := by
  intro xs
  induction xs with
  | nil => intro _; rfl
  | cons x xs ih => intro base; simp [deltaEncode, encodedSize, u16le, xorWithBase_length, ih]; omega

theorem length_le_encodedSize (xs : List Bytes) : xs.length ≤ encodedSize xs := by
  induction xs with
  | nil => simp [encodedSize]
  | cons x xs ih => simp [encodedSize]; omega

theorem encodedSize_le (xs : List Bytes) (n : Nat) (h : ∀ x ∈ xs, x.length ≤ n) :
    encodedSize xs ≤ xs.length * (n + 2) := by
  induction xs with
  | nil => exact Nat.zero_le _
  | cons x xs ih =>
    have h1 := h x List.mem_cons_self
    have h2 := ih fun y hy => h y (List.mem_cons_of_mem _ hy)
    rw [encodedSize, List.length_cons, Nat.succ_mul]
    omega

/-- `MAX_DECODED_BYTES` is what `PENDING_OUTPUT_SIZE + 1` maximal inputs occupy. -/
theorem encodedSize_cap (xs : List Bytes) (hlen : ∀ x ∈ xs, x.length ≤ 65535)
    (hn : xs.length ≤ PENDING_OUTPUT_SIZE + 1) : encodedSize xs ≤ MAX_DECODED_BYTES :=
  Nat.le_trans (encodedSize_le xs 65535 hlen) (Nat.mul_le_mul_right 65537 hn)

theorem deltaDecodeLoop_nil (k : Nat) (base : Bytes) (out : List Bytes) :
    deltaDecodeLoop k base [] out = .ok out.reverse := by
  cases k <;> simp [deltaDecodeLoop]

theorem deltaDecodeLoop_encode : ∀ (xs : List Bytes) (k : Nat) (base : Bytes) (acc : List Bytes),
    (∀ x ∈ xs, x.length ≤ 65535) →
    deltaDecodeLoop (xs.length + k) base (deltaEncode base xs) acc = .ok (acc.reverse ++ xs) := by
  intro xs
  induction xs with
  | nil => intro k base acc _; simp [deltaEncode, deltaDecodeLoop_nil]
  | cons x xs ih =>
    intro k base acc hlen
    have hx := hlen x List.mem_cons_self
    have hfuel : (x :: xs).length + k = (xs.length + k) + 1 := by simp; omega
    rw [hfuel]
    simp only [deltaEncode, u16le, List.cons_append, List.nil_append, deltaDecodeLoop]
    rw [u16le_decode _ hx]
    have e1 : takeExact x.length (xorWithBase base x ++ deltaEncode x xs) []
        = some ((xorWithBase base x).reverse ++ [], deltaEncode x xs) := by
      rw [← xorWithBase_length base x]; exact takeExact_append _ _ _
    simp only [e1, List.append_nil, List.reverse_reverse, xorInPlace_xorWithBase]
    rw [ih k x _ (fun y hy => hlen y (List.mem_cons_of_mem _ hy))]
    simp

theorem delta_roundtrip (reference : Bytes) (xs : List Bytes) (h : ∀ x ∈ xs, x.length ≤ 65535) :
    deltaDecode reference (deltaEncode reference xs) = .ok xs := by
  unfold deltaDecode
  have hle : xs.length ≤ (deltaEncode reference xs).length := by
    rw [deltaEncode_length]; exact length_le_encodedSize xs
  obtain ⟨k, hk⟩ : ∃ k, (deltaEncode reference xs).length = xs.length + k :=
    ⟨_, (Nat.add_sub_cancel' hle).symm⟩
  rw [hk, deltaDecodeLoop_encode xs k reference [] h]
  simp

/-- L-codec (C14's round trip), under the decoder's size cap. -/
theorem decode_encode (reference : Bytes) (xs : List Bytes) (hlen : ∀ x ∈ xs, x.length ≤ 65535)
    (hcap : encodedSize xs ≤ MAX_DECODED_BYTES) : decode reference (encode reference xs) = .ok xs := by
  unfold decode encode
  rw [rle_roundtrip _ (by rw [deltaEncode_length]; exact hcap)]
  exact delta_roundtrip reference xs hlen

def Safe {α} (P : α → Prop) (r : Except CodecErr α) : Prop :=
  (∀ s, r ≠ .error (.panic s)) ∧ ∀ x, r = .ok x → P x

theorem Safe.ok {α} {P : α → Prop} {x : α} (h : P x) : Safe P (.ok x) :=
  ⟨nofun, fun _ e => Except.ok.inj e ▸ h⟩

theorem Safe.error {α} {P : α → Prop} {e : CodecErr} (h : ∀ s, e ≠ .panic s) : Safe P (.error e : Except CodecErr α) :=
  ⟨fun s he => h s (Except.error.inj he), nofun⟩

theorem Safe.mono {α} {P Q : α → Prop} {r : Except CodecErr α} (h : Safe P r) (hpq : ∀ x, P x → Q x) : Safe Q r :=
  ⟨h.1, fun x hx => hpq x (h.2 x hx)⟩

theorem Safe.elim {α} {P : α → Prop} {r : Except CodecErr α} (h : Safe P r) :
    (∃ x, r = .ok x ∧ P x) ∨ (∃ e, r = .error e ∧ ∀ s, e ≠ .panic s) := by
  cases r with
  | ok x => exact .inl ⟨x, rfl, h.2 x rfl⟩
  | error e => exact .inr ⟨e, rfl, fun s hs => h.1 s (hs ▸ rfl)⟩

/-- `room + |out| = MAX_DECODED_BYTES` is preserved, so `room` really is `MAX_DECODED_BYTES - output.len()`
and the `usize` subtraction of the Rust code never underflows. -/
theorem rleDecodeLoop_safe (fuel : Nat) (data out : Bytes) (room : Nat)
    (h : room + out.length = MAX_DECODED_BYTES) :
    Safe (·.length ≤ MAX_DECODED_BYTES) (rleDecodeLoop fuel data out room) := by
  have hrev (out : Bytes) (room : Nat) (h : room + out.length = MAX_DECODED_BYTES) :
      out.reverse.length ≤ MAX_DECODED_BYTES := by
    rw [List.length_reverse]; exact Nat.le.intro ((Nat.add_comm ..).trans h)
  fun_induction rleDecodeLoop fuel data out room with
  | case1 => exact .ok (hrev _ _ h)
  | case2 => exact .ok (hrev _ _ h)
  | case3 _ data _ _ _ _ hr =>
    exact .error fun s hs => readHeader_no_panic data 0 0 0 rfl Nat.one_pos s (hs ▸ hr)
  | case4 => exact .error nofun
  | case5 _ _ _ _ _ _ _ _ _ _ _ _ ih =>
    apply ih
    rw [List.length_append, List.length_replicate]
    omega
  | case6 => exact .error nofun
  | case7 => exact .error nofun
  | case8 _ _ _ _ _ _ _ _ _ _ _ _ ht _ ih =>
    apply ih
    rw [List.length_append, (takeExact_length _ _ _ _ _ ht).1, List.length_nil]
    omega

theorem rleDecode_safe (data : Bytes) : Safe (·.length ≤ MAX_DECODED_BYTES) (rleDecode data) :=
  rleDecodeLoop_safe data.length data [] MAX_DECODED_BYTES rfl

theorem xorInPlace_length : ∀ (d b : Bytes), (xorInPlace d b).length = d.length := by
  intro d
  induction d with
  | nil => intro b; simp [xorInPlace]
  | cons y ys ihd => intro b; cases b <;> simp [xorInPlace, ihd]

theorem encodedSize_reverse (xs : List Bytes) : encodedSize xs.reverse = encodedSize xs := by
  induction xs with
  | nil => rfl
  | cons x xs ih => simp [encodedSize_append, encodedSize, ih]; omega

theorem deltaDecodeLoop_safe (fuel : Nat) (base data : Bytes) (acc : List Bytes) :
    Safe (encodedSize · ≤ encodedSize acc + data.length) (deltaDecodeLoop fuel base data acc) := by
  fun_induction deltaDecodeLoop fuel base data acc with
  | case1 => exact .ok (by rw [encodedSize_reverse]; exact Nat.le_add_right ..)
  | case2 => exact .ok (by rw [encodedSize_reverse]; exact Nat.le_add_right ..)
  | case3 => exact .error nofun
  | case4 => exact .error nofun
  | case5 _ _ _ _ _ _ _ litRev _ ht decoded ih =>
    refine ih.mono fun xs h => ?_
    have hl := takeExact_length _ _ _ _ _ ht
    have hd : decoded.length = litRev.length := (xorInPlace_length ..).trans List.length_reverse
    simp only [encodedSize, List.length_cons, List.length_nil] at h hl ⊢
    omega

theorem decode_safe (reference data : Bytes) :
    Safe (encodedSize · ≤ MAX_DECODED_BYTES) (decode reference data) := by
  unfold decode
  have hr := rleDecode_safe data
  split
  · next e h => exact .error fun s hs => hr.1 s (hs ▸ h)
  · next buf h =>
    refine (deltaDecodeLoop_safe buf.length reference buf []).mono fun xs hx => ?_
    exact Nat.le_trans hx (Nat.le_trans (Nat.le_of_eq (Nat.zero_add _)) (hr.2 buf h))

end Ggrs.Codec
