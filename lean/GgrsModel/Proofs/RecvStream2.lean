/-
L-stream, receiver side (stated in RecvStream.lean): the receiver invariant `RInv` and the loop of
`on_input` over the decoded inputs of one packet.
-/
import GgrsModel.Proofs.RecvStream

namespace Ggrs
open Codec (Bytes)

/-- The stream a sender feeds into `send_input` for one endpoint: frame `f0 + i` carries
`items[i]`; every item has `width` bytes (`INPUT_SIZE` per player of the endpoint). -/
structure SStream where
  f0 : Nat
  items : List Bytes
  width : Nat

namespace SStream
def item (S : SStream) (f : Int) : Bytes := S.items.getD (f - S.f0).toNat []
def last (S : SStream) : Int := (S.f0 : Int) + S.items.length - 1
def zerosB (w : Nat) : Bytes := List.replicate w 0
/-- the input a packet starting at `start` is delta-encoded against -/
def refAt (S : SStream) (start : Int) : Bytes := if start = S.f0 then zerosB S.width else S.item (start - 1)
def slice (S : SStream) (start : Int) (n : Nat) : List Bytes := (S.items.drop (start - S.f0).toNat).take n
end SStream

/-- The Input events one accepted frame produces. -/
def evsOf (f : Frame) (bytes : Bytes) (handles : List Nat) : List ProtoEvent :=
  match Endpoint.toPlayerInputs f bytes handles.length with
  | some pis => pis.zipIdx.map fun (pi, j) => ProtoEvent.input pi (handles.getD j 0)
  | none => []

def evsRange (S : SStream) (handles : List Nat) : Int → Nat → List ProtoEvent
  | _, 0 => []
  | a, k + 1 => evsOf a (S.item a) handles ++ evsRange S handles (a + 1) k

def nextFrame (e : Endpoint) (S : SStream) : Int :=
  if e.lastRecvFrame = NULL_FRAME then S.f0 else e.lastRecvFrame + 1

structure RInv (e : Endpoint) (S : SStream) : Prop where
  nonempty : e.recvInputs ≠ []
  range : e.lastRecvFrame = NULL_FRAME ∨ ((S.f0 : Int) ≤ e.lastRecvFrame ∧ e.lastRecvFrame ≤ S.last)
  entries : ∀ f b, alookup f e.recvInputs = some b →
    (f = NULL_FRAME ∧ b = SStream.zerosB S.width) ∨ ((S.f0 : Int) ≤ f ∧ f ≤ e.lastRecvFrame ∧ b = S.item f)
  newest : e.lastRecvFrame ≠ NULL_FRAME → alookup e.lastRecvFrame e.recvInputs = some (S.item e.lastRecvFrame)
  fresh : e.lastRecvFrame = NULL_FRAME → alookup NULL_FRAME e.recvInputs = some (SStream.zerosB S.width)
  width : S.width = INPUT_SIZE * e.handles.length ∧ e.handles.length > 0
  itemWidth : ∀ b ∈ S.items, b.length = S.width

theorem SStream.idx_lt (S : SStream) {f : Int} (hlo : (S.f0 : Int) ≤ f) (hhi : f ≤ S.last) :
    (f - S.f0).toNat < S.items.length := by
  unfold SStream.last at hhi
  omega

theorem item_mem (S : SStream) (f : Int) (hlo : (S.f0 : Int) ≤ f) (hhi : f ≤ S.last) : S.item f ∈ S.items := by
  rw [SStream.item, List.getD_eq_getElem?_getD, List.getElem?_eq_getElem (S.idx_lt hlo hhi)]
  exact List.getElem_mem _

theorem slice_length (S : SStream) (start : Int) (n : Nat) (hlo : (S.f0 : Int) ≤ start)
    (hhi : start + (n : Int) - 1 ≤ S.last) : (S.slice start n).length = n := by
  unfold SStream.slice SStream.last at *
  simp only [List.length_take, List.length_drop]
  omega

theorem slice_getD (S : SStream) (start : Int) (n j : Nat) (hlo : (S.f0 : Int) ≤ start) (hj : j < n) :
    (S.slice start n).getD j [] = S.item (start + (j : Int)) := by
  unfold SStream.slice SStream.item
  simp only [List.getD_eq_getElem?_getD, List.getElem?_take, hj, if_true, List.getElem?_drop]
  congr 2
  omega

theorem slice_mem (S : SStream) (start : Int) (n : Nat) : ∀ b ∈ S.slice start n, b ∈ S.items :=
  fun _ hb => List.mem_of_mem_drop (List.mem_of_mem_take hb)

theorem slice_succ (S : SStream) (a : Int) (n : Nat) (hlo : (S.f0 : Int) ≤ a) (hhi : a ≤ S.last) :
    S.slice a (n + 1) = S.item a :: S.slice (a + 1) n := by
  have hidx := S.idx_lt hlo hhi
  have h1 : (a + 1 - (S.f0 : Int)).toNat = (a - (S.f0 : Int)).toNat + 1 := by omega
  rw [SStream.slice, SStream.slice, SStream.item, List.drop_eq_getElem_cons hidx, List.take_succ_cons, h1,
    List.getD_eq_getElem?_getD, List.getElem?_eq_getElem hidx]
  rfl

theorem Endpoint.toPlayerInputs_isSome (f : Frame) (bytes : Bytes) (n : Nat) :
    (Endpoint.toPlayerInputs f bytes n).isSome ↔ bytes.length = INPUT_SIZE * n ∧ n ≠ 0 := by
  fun_cases Endpoint.toPlayerInputs f bytes n with
  | case1 h0 => exact ⟨nofun, fun h => absurd (beq_iff_eq.mp h0) h.2⟩
  | case2 h0 hm =>
    refine ⟨nofun, fun h => ?_⟩
    rw [h.1, Nat.mul_mod_left, bne_self_eq_false] at hm
    cases hm
  | case3 h0 hm size hq =>
    refine ⟨nofun, fun h => ?_⟩
    have hs : size = INPUT_SIZE := by
      show bytes.length / n = _
      rw [h.1]
      exact Nat.mul_div_cancel _ (Nat.pos_of_ne_zero h.2)
    rw [hs, bne_self_eq_false] at hq
    cases hq
  | case4 h0 hm size hq =>
    simp only [bne_iff_ne, ne_eq, Decidable.not_not, beq_iff_eq] at h0 hm hq
    have hdm := Nat.div_add_mod bytes.length n
    rw [hm, Nat.add_zero, Nat.mul_comm] at hdm
    exact ⟨fun _ => ⟨hq ▸ hdm.symm, h0⟩, fun _ => rfl⟩

theorem toPlayerInputs_some (f : Frame) (bytes : Bytes) (n : Nat) (hn : n > 0) (hl : bytes.length = INPUT_SIZE * n) :
    ∃ pis, Endpoint.toPlayerInputs f bytes n = some pis :=
  Option.isSome_iff_exists.mp ((Endpoint.toPlayerInputs_isSome f bytes n).mpr ⟨hl, Nat.ne_of_gt hn⟩)

theorem lastRecvFrame_congr {e e' : Endpoint} (hr : e'.recvInputs = e.recvInputs) :
    e'.lastRecvFrame = e.lastRecvFrame := by
  rw [lastRecvFrame_eq, lastRecvFrame_eq, hr]

theorem nextFrame_of_last {e e' : Endpoint} {S : SStream} (h : e'.lastRecvFrame = e.lastRecvFrame) :
    nextFrame e' S = nextFrame e S := by
  unfold nextFrame; rw [h]

theorem RInv_congr {e e' : Endpoint} {S : SStream} (h : RInv e S) (hr : e'.recvInputs = e.recvInputs)
    (hh : e'.handles = e.handles) : RInv e' S := by
  have hl := lastRecvFrame_congr hr
  exact ⟨hr ▸ h.nonempty, hl ▸ h.range, hr ▸ hl ▸ h.entries, hr ▸ hl ▸ h.newest, hr ▸ hl ▸ h.fresh,
    hh ▸ h.width, h.itemWidth⟩

theorem nextFrame_cases {e : Endpoint} {S : SStream} (h : RInv e S) :
    (e.lastRecvFrame = -1 ∧ nextFrame e S = S.f0) ∨
    ((S.f0 : Int) ≤ e.lastRecvFrame ∧ e.lastRecvFrame ≤ S.last ∧ nextFrame e S = e.lastRecvFrame + 1) := by
  unfold nextFrame
  rcases h.range with h0 | ⟨h1, h2⟩
  · exact Or.inl ⟨h0, if_pos h0⟩
  · exact Or.inr ⟨h1, h2, if_neg (show e.lastRecvFrame ≠ -1 by omega)⟩

theorem nextFrame_le_iff {e : Endpoint} {S : SStream} (h : RInv e S) (a : Int) :
    nextFrame e S ≤ a ↔ (S.f0 : Int) ≤ a ∧ e.lastRecvFrame < a := by
  have := nextFrame_cases h
  omega

theorem nextFrame_lo {e : Endpoint} {S : SStream} (h : RInv e S) : nextFrame e S ≥ S.f0 :=
  ((nextFrame_le_iff h _).mp (Int.le_refl _)).1

theorem last_lt_nextFrame {e : Endpoint} {S : SStream} (h : RInv e S) : e.lastRecvFrame < nextFrame e S :=
  ((nextFrame_le_iff h _).mp (Int.le_refl _)).2

theorem nextFrame_mono {e e' : Endpoint} {S : SStream} (h : RInv e S) (h' : RInv e' S)
    (hge : e'.lastRecvFrame ≥ e.lastRecvFrame) : nextFrame e' S ≥ nextFrame e S :=
  (nextFrame_le_iff h _).mpr ⟨nextFrame_lo h', Int.lt_of_le_of_lt hge (last_lt_nextFrame h')⟩

theorem RInv.seen_mono {e e' : Endpoint} {S : SStream} (h : RInv e S) (hge : e'.lastRecvFrame ≥ e.lastRecvFrame)
    (h0 : e.lastRecvFrame ≠ NULL_FRAME) : e'.lastRecvFrame ≠ NULL_FRAME := by
  rcases h.range with hr | ⟨hr, _⟩
  · exact absurd hr h0
  · show e'.lastRecvFrame ≠ -1
    omega

theorem nextFrame_eq_succ {e : Endpoint} {S : SStream} (h0 : 0 ≤ e.lastRecvFrame) :
    nextFrame e S = e.lastRecvFrame + 1 :=
  if_neg (show e.lastRecvFrame ≠ -1 by omega)

theorem acceptInputs_shift (start : Frame) : ∀ (xs : List Bytes) (e : Endpoint) (i : Nat),
    Endpoint.acceptInputs e start xs (i + 1) = Endpoint.acceptInputs e (start + 1) xs i := by
  intro xs
  induction xs with
  | nil => intro e i; rfl
  | cons x xs ih =>
    intro e i
    have : start + ((i + 1 : Nat) : Int) = start + 1 + (i : Int) := by omega
    simp only [Endpoint.acceptInputs, this, ih]

theorem acceptInputs_cons (e : Endpoint) (a : Frame) (x : Bytes) (xs : List Bytes) :
    Endpoint.acceptInputs e a (x :: xs) 0 =
      if a ≤ e.lastRecvFrame then Endpoint.acceptInputs e (a + 1) xs 0
      else match Endpoint.toPlayerInputs a x e.handles.length with
        | none => (e, false)
        | some pis => Endpoint.acceptInputs (e.storeFrame a x pis) (a + 1) xs 0 := by
  simp only [Endpoint.acceptInputs, acceptInputs_shift, Int.natCast_zero, Int.add_zero]
  rfl

theorem acceptInputs_fields (start : Frame) (xs : List Bytes) (e : Endpoint) (i : Nat) :
    (Endpoint.acceptInputs e start xs i).1.handles = e.handles ∧
    (Endpoint.acceptInputs e start xs i).1.sendQueue = e.sendQueue ∧
    (Endpoint.acceptInputs e start xs i).1.maxPrediction = e.maxPrediction ∧
    (Endpoint.acceptInputs e start xs i).1.magic = e.magic :=
  Endpoint.acceptInputs_preserves
    (P := fun e' => e'.handles = e.handles ∧ e'.sendQueue = e.sendQueue ∧ e'.maxPrediction = e.maxPrediction ∧
      e'.magic = e.magic)
    (fun _ _ _ _ h => h) start xs e i ⟨rfl, rfl, rfl, rfl⟩

/-- The frame need not be the next one: the invariant does not say the map is gapless. -/
theorem RInv_store {e : Endpoint} {S : SStream} (h : RInv e S) (a : Int) (pis : List PlayerInput)
    (hlo : (S.f0 : Int) ≤ a) (hhi : a ≤ S.last) (hnew : e.lastRecvFrame < a) :
    (e.storeFrame a (S.item a) pis).lastRecvFrame = a ∧ RInv (e.storeFrame a (S.item a) pis) S := by
  have hL : (e.storeFrame a (S.item a) pis).lastRecvFrame = a := by
    rw [lastRecvFrame_eq]
    show maxKey (ainsert a (S.item a) e.recvInputs) = a
    rw [maxKey_ainsert _ _ _ h.nonempty, ← lastRecvFrame_eq]
    exact Int.max_eq_left (Int.le_of_lt hnew)
  refine ⟨hL, ainsert_ne_nil _ _ _, Or.inr (by rw [hL]; exact ⟨hlo, hhi⟩), ?_, ?_, ?_, h.width, h.itemWidth⟩
  · intro f b hf
    rw [hL]
    change alookup f (ainsert a (S.item a) e.recvInputs) = some b at hf
    rw [alookup_ainsert] at hf
    split at hf
    · next hfa =>
      cases hf
      exact Or.inr ⟨hfa ▸ hlo, Int.le_of_eq hfa.symm, hfa ▸ rfl⟩
    · rcases h.entries f b hf with h1 | ⟨h1, h2, h3⟩
      · exact Or.inl h1
      · exact Or.inr ⟨h1, by omega, h3⟩
  · intro _
    rw [hL]
    exact alookup_ainsert_self _ _ _
  · intro h0
    rw [hL] at h0
    have : NULL_FRAME = (-1 : Int) := rfl
    omega

/-- Handed `S[a .. a+n)` with `a` not beyond the frame the receiver is waiting for, the loop skips what
the receiver has, stores the rest, and raises exactly the events of the newly stored frames. -/
theorem acceptInputs_slice (S : SStream) : ∀ (n : Nat) (a : Int) (e : Endpoint), RInv e S →
    (S.f0 : Int) ≤ a → a + (n : Int) - 1 ≤ S.last → a ≤ nextFrame e S →
    ∃ e', Endpoint.acceptInputs e a (S.slice a n) 0 = (e', true) ∧ RInv e' S ∧
      nextFrame e' S = max (nextFrame e S) (a + (n : Int)) ∧
      e'.eventQueue = e.eventQueue ++
        evsRange S e.handles (nextFrame e S) (nextFrame e' S - nextFrame e S).toNat := by
  intro n
  induction n with
  | zero =>
    intro a e h _ _ ha
    exact ⟨e, rfl, h, (Int.max_eq_left (by rw [Int.natCast_zero, Int.add_zero]; exact ha)).symm,
      by rw [Int.sub_self]; exact (List.append_nil _).symm⟩
  | succ n ih =>
    intro a e h hlo hhi ha
    have hn : a + ((n + 1 : Nat) : Int) = a + 1 + (n : Int) := by rw [Int.add_assoc, Int.add_comm 1]; rfl
    have hhi' : a ≤ S.last := by omega
    have hlo1 : (S.f0 : Int) ≤ a + 1 := Int.le_trans hlo (Int.le_add_one (Int.le_refl a))
    rw [hn] at hhi
    rw [slice_succ S a n hlo hhi', acceptInputs_cons, hn]
    by_cases hskip : a ≤ e.lastRecvFrame
    · rw [if_pos hskip]
      exact ih (a + 1) e h hlo1 hhi (Int.lt_of_le_of_lt hskip (last_lt_nextFrame h))
    · -- a new frame: it is exactly the next one
      rw [if_neg hskip]
      have hnew := Int.not_le.mp hskip
      have hae : a = nextFrame e S := Int.le_antisymm ha ((nextFrame_le_iff h a).mpr ⟨hlo, hnew⟩)
      obtain ⟨pis, hpis⟩ := toPlayerInputs_some a (S.item a) e.handles.length h.width.2
        (by rw [h.itemWidth _ (item_mem S a hlo hhi'), h.width.1])
      simp only [hpis]
      obtain ⟨hL2, hinv2⟩ := RInv_store h a pis hlo hhi' hnew
      have hn2 : nextFrame (e.storeFrame a (S.item a) pis) S = a + 1 := by
        rw [nextFrame_eq_succ (Int.le_trans (Int.natCast_nonneg _) (Int.le_trans hlo (Int.le_of_eq hL2.symm))), hL2]
      obtain ⟨e', hacc, hinv, hnext, hev⟩ := ih (a + 1) _ hinv2 hlo1 hhi (Int.le_of_eq hn2.symm)
      rw [hn2] at hnext hev
      have h1n : a + 1 ≤ a + 1 + (n : Int) := Int.le_add_of_nonneg_right (Int.natCast_nonneg n)
      refine ⟨e', hacc, hinv, ?_, ?_⟩
      · rw [hnext, ← hae, Int.max_eq_right h1n, Int.max_eq_right (Int.le_trans (Int.le_add_one (Int.le_refl a)) h1n)]
      · have hq2 : (e.storeFrame a (S.item a) pis).eventQueue = e.eventQueue ++ evsOf a (S.item a) e.handles := by
          simp only [evsOf, hpis, Endpoint.storeFrame]
        have hlt : a < nextFrame e' S := hnext ▸ Int.lt_of_lt_of_le (Int.lt_succ a) (Int.le_max_left _ _)
        rw [hev, hq2, List.append_assoc, ← hae, toNat_sub_succ hlt]
        rfl

end Ggrs
