/-
L-drop (session level): rollback-mode `advance_frame`, remote-input arrivals and drops keep the
session invariant with dead players, in either saving mode. A drop is a `disconnect_player_at_frame`
call for a remote player, with its own last frame (`drop_specD`) or an adopted cut-off (`drop_specG`).
After the first `advance_frame` that follows, every frame beyond the dropped player's last frame
carries the blank input with status Disconnected, every frame up to it the real input.
-/
import GgrsModel.Proofs.DropSync
import GgrsModel.Proofs.Session

namespace Ggrs
open InputQueue


theorem addByFrame_fi (q q' : InputQueue) (inp : PlayerInput) (f : Frame) (h : q.addInputByFrame inp f = .ok q') :
    q'.firstIncorrectFrame = q.firstIncorrectFrame ∨ q'.firstIncorrectFrame = f := by
  obtain ⟨_, _, _, _, _, _, hn, hp⟩ := addByFrame_fields q q' inp f h
  by_cases hpf : q.prediction.frame = NULL_FRAME
  · exact Or.inl (hn hpf).2
  · rw [(hp hpf).2.1]
    split
    · exact Or.inr rfl
    · exact Or.inl rfl

theorem addInput_fi (q q' : InputQueue) (s : QSpec) (inp : PlayerInput) (fr : Frame)
    (hr : Refines q.strip s) (h : q.addInput inp = .ok (q', fr)) :
    q'.firstIncorrectFrame = q.firstIncorrectFrame ∨ (s.vals.length : Int) ≤ q'.firstIncorrectFrame := by
  have hk : AddKeeps fun x vals => s.vals.length ≤ vals.length ∧
      (x.firstIncorrectFrame = q.firstIncorrectFrame ∨ (s.vals.length : Int) ≤ x.firstIncorrectFrame) := by
    intro x x' vals i n hx hadd hn
    refine ⟨by rw [List.length_append]; exact Nat.le_add_right_of_le hx.1, ?_⟩
    rcases addByFrame_fi x x' i n hadd with e | e
    · rw [e]; exact hx.2
    · right; rw [e, hn]; exact Int.ofNat_le.mpr hx.1
  exact (hk.addInput (fun _ _ _ hx => hx) hr ⟨Nat.le_refl _, Or.inl rfl⟩ h).2

/-- `st0` is the status list the queue invariants are relative to: the session's own list, except
that players marked disconnected since the last rollback phase (`pend`) still count as alive in
it. For each of those, either its last frame is not behind the current frame, or
`disconnect_frame` is set to a frame at or before the one after it. -/
structure SessInvD (s : P2P) (gh : DGhost) (t0 : TLState) (reqs : List Request) (st0 : List ConnStatus) : Prop where
  tinv : TInvD s.pred s.sync st0 gh t0 reqs
  marks : Marks st0 s.localConnectStatus
  asked : ∀ p, p < s.sync.queues.length → (rget s.localConnectStatus p).disconnected = false →
    Asked (rget s.sync.queues p) s.sync.currentFrame
  pend : ∀ p, p < s.sync.queues.length → (rget st0 p).disconnected = false →
    (rget s.localConnectStatus p).disconnected = true →
    s.sync.currentFrame ≤ (rget st0 p).lastFrame + 1 ∨
    (s.disconnectFrame ≠ NULL_FRAME ∧ s.disconnectFrame ≤ (rget st0 p).lastFrame + 1)
  status : ∀ p, p < s.sync.queues.length → ¬ gh.gone p →
    (rget s.localConnectStatus p).lastFrame ≤ (rget s.sync.queues p).lastAddedFrame
  remote : ∀ p, p < s.sync.queues.length → p ∉ s.localPlayerHandles →
    (gh.specs p).delay = 0 ∧ (gh.specs p).lastUser = (rget s.localConnectStatus p).lastFrame ∧
    ((gh.specs p).vals.length : Int) = (gh.specs p).lastUser + 1
  localAlive : ∀ p, p ∈ s.localPlayerHandles → (rget s.localConnectStatus p).disconnected = false
  /-- a player whose queue has been given up lies behind everything that can still trigger a rollback -/
  safe : ∀ p, p < s.sync.queues.length → gh.gone p →
    (s.disconnectFrame ≠ NULL_FRAME → (rget s.localConnectStatus p).lastFrame < s.disconnectFrame) ∧
    (∀ q, q < s.sync.queues.length → (rget s.sync.queues q).firstIncorrectFrame ≠ NULL_FRAME →
      (rget s.localConnectStatus p).lastFrame < (rget s.sync.queues q).firstIncorrectFrame) ∧
    (∀ q, q < s.sync.queues.length → (rget st0 q).disconnected = false →
      (rget s.localConnectStatus p).lastFrame < (rget s.localConnectStatus q).lastFrame)
  dfok : s.disconnectFrame = NULL_FRAME ∨ 0 ≤ s.disconnectFrame
  /-- nothing is ever added to a dead player's queue: once through a rollback phase it flags nothing -/
  deadClean : ∀ p, p < s.sync.queues.length → (rget st0 p).disconnected = true →
    (rget s.sync.queues p).firstIncorrectFrame = NULL_FRAME
  /-- sparse saving: the state to roll back to lies beyond every given-up player's last frame -/
  saved : s.sparse = true → ∀ p, p < s.sync.queues.length → gh.gone p →
    (rget s.localConnectStatus p).lastFrame < s.sync.lastSavedFrame

theorem SessInvD_sameQueues (s s2 : P2P) (gh : DGhost) (t : TLState) (reqs : List Request) (st0 : List ConnStatus)
    (h : SessInvD s gh t reqs st0)
    (hq : s2.sync.queues = s.sync.queues) (hc : s2.sync.currentFrame = s.sync.currentFrame)
    (hls : s2.sync.lastSavedFrame = s.sync.lastSavedFrame)
    (hp : s2.pred = s.pred) (hst : s2.localConnectStatus = s.localConnectStatus) (hh : s2.handles = s.handles)
    (hsp : s2.sparse = s.sparse) (hdf : s2.disconnectFrame = s.disconnectFrame) :
    SessInvD s2 gh t reqs st0 := by
  have hlp := P2P.localPlayerHandles_congr hh
  exact ⟨by rw [hp]; exact TInvD_congr h.tinv hq hc rfl,
    by rw [hst]; exact h.marks, by rw [hq, hc, hst]; exact h.asked, by rw [hq, hc, hst, hdf]; exact h.pend,
    by rw [hq, hst]; exact h.status, by rw [hq, hst, hlp]; exact h.remote, by rw [hst, hlp]; exact h.localAlive,
    by rw [hq, hst, hdf]; exact h.safe, by rw [hdf]; exact h.dfok, by rw [hq]; exact h.deadClean,
    by rw [hsp, hq, hst, hls]; exact h.saved⟩

theorem SessInvD_congr (s s' : P2P) (gh : DGhost) (t0 : TLState) (reqs : List Request) (st0 : List ConnStatus)
    (h : SessInvD s gh t0 reqs st0) (hc : P2P.SameCore s s') : SessInvD s' gh t0 reqs st0 :=
  SessInvD_sameQueues s s' gh t0 reqs st0 h (by rw [hc.sync]) (by rw [hc.sync]) (by rw [hc.sync]) hc.pred hc.statuses
    hc.handles hc.sparse hc.disconnectFrame

theorem SessInvD_userExecute (s : P2P) (gh : DGhost) (t0 : TLState) (reqs : List Request) (st0 : List ConnStatus)
    (saves : List (Frame × Option Nat)) (h : SessInvD s gh t0 reqs st0) : SessInvD (s.userExecute saves) gh t0 reqs st0 := by
  obtain ⟨uq, uc, _, up, ust, uh, usp⟩ := userExecute_fields s saves
  exact SessInvD_sameQueues s _ gh t0 reqs st0 h uq uc (userExecute_lastSaved s saves) up ust uh usp rfl

theorem SessInvD_pending (s : P2P) (gh : DGhost) (t0 : TLState) (reqs : List Request) (st0 : List ConnStatus)
    (l : List (Nat × PlayerInput)) (h : SessInvD s gh t0 reqs st0) :
    SessInvD { s with pendingLocalInputs := l } gh t0 reqs st0 :=
  SessInvD_sameQueues s _ gh t0 reqs st0 h rfl rfl rfl rfl rfl rfl rfl rfl

theorem Marks.alive {st0 st1 : List ConnStatus} (hm : Marks st0 st1) {p : Nat}
    (h : (rget st1 p).disconnected = false) : (rget st0 p).disconnected = false := by
  cases hx : (rget st0 p).disconnected with
  | false => rfl
  | true => have := hm.mono p hx; rw [h] at this; cases this

theorem SessInvD.nst {s gh t0 reqs st0} (h : SessInvD s gh t0 reqs st0) :
    s.localConnectStatus.length = s.sync.queues.length := by
  rw [h.marks.len]; exact h.tinv.sync.nq

theorem SessInvD.liveQI {s gh t0 reqs st0} (h : SessInvD s gh t0 reqs st0) {p : Nat} (hp : p < s.sync.queues.length)
    (hc : (rget s.localConnectStatus p).disconnected = false) :
    ¬ gh.gone p ∧ QI s.pred (rget s.sync.queues p) (gh.specs p) (gh.hists p) (gh.T p) s.sync.currentFrame := by
  have hc0 := h.marks.alive hc
  have hng : ¬ gh.gone p := fun hg => by
    have := (h.tinv.sync.gone p hp hg).dead; rw [hc0] at this; cases this
  exact ⟨hng, pcur_alive _ s.sync.currentFrame hc0 ▸ h.tinv.sync.live p hp hng⟩

theorem SessInvD.status_len {s gh t0 reqs st0} (h : SessInvD s gh t0 reqs st0) {p : Nat} (hp : p < s.sync.queues.length)
    (hng : ¬ gh.gone p) : (rget s.localConnectStatus p).lastFrame ≤ ((gh.specs p).vals.length : Int) - 1 :=
  lastAdded_of_QI (h.tinv.sync.live p hp hng) ▸ h.status p hp hng

theorem confirmedFrame_leD (s : P2P) (c : Frame) (h : s.confirmedFrame = .ok c) :
    ∀ p, p < s.localConnectStatus.length → (rget s.localConnectStatus p).disconnected = false →
      c ≤ (rget s.localConnectStatus p).lastFrame := by
  intro p hp hconn
  exact (P2P.confirmedFrame_le_mem h).2 _ (mem_of_rget _ _ hp) hconn

/-- A remote player's stream ends at its last frame. -/
theorem SessInvD.dead_held {s : P2P} {gh : DGhost} {t : TLState} {reqs : List Request} {st0 : List ConnStatus}
    (h : SessInvD s gh t reqs st0) {p f : Nat} (hp : p < s.sync.queues.length)
    (hd : (rget s.localConnectStatus p).disconnected = true) (hns : ¬ Skip (rget s.localConnectStatus p) (f : Int)) :
    f < (gh.specs p).vals.length := by
  have hnl : p ∉ s.localPlayerHandles := fun hl => Bool.false_ne_true ((h.localAlive p hl).symm.trans hd)
  obtain ⟨_, hlu, hlen⟩ := h.remote p hp hnl
  have := Skip.of_not hns hd
  omega

theorem SessInvD.held {s : P2P} {gh : DGhost} {t : TLState} {reqs : List Request} {st0 : List ConnStatus}
    (h : SessInvD s gh t reqs st0) {p c : Nat} (hp : p < s.sync.queues.length)
    (hle : (rget s.localConnectStatus p).disconnected = false → (c : Int) ≤ (rget s.localConnectStatus p).lastFrame)
    (hns : ¬ Skip (rget s.localConnectStatus p) (c : Int)) : c < (gh.specs p).vals.length := by
  by_cases hd : (rget s.localConnectStatus p).disconnected = true
  · exact h.dead_held hp hd hns
  · have hcn := Bool.eq_false_iff.mpr hd
    have h1 := hle hcn
    have h2 := h.status_len hp (h.liveQI hp hcn).1
    omega

theorem SessInvD.of_tinvD {s s' : P2P} {gh gh' : DGhost} {t0 : TLState} {reqs reqs' : List Request}
    {st0 : List ConnStatus} (h : SessInvD s gh t0 reqs st0)
    (hinv : TInvD s'.pred s'.sync s'.localConnectStatus gh' t0 reqs')
    (hask : ∀ p, p < s'.sync.queues.length → (rget s'.localConnectStatus p).disconnected = false →
      Asked (rget s'.sync.queues p) s'.sync.currentFrame)
    (hclean : ∀ p, p < s'.sync.queues.length → (rget s'.sync.queues p).firstIncorrectFrame = NULL_FRAME)
    (hsp : gh'.specs = gh.specs) (hgo : gh'.gone = gh.gone)
    (hst : s'.localConnectStatus = s.localConnectStatus) (hh : s'.handles = s.handles)
    (hdf : s'.disconnectFrame = NULL_FRAME ∨ s'.disconnectFrame = s.disconnectFrame)
    (hsaved : s'.sparse = true → ∀ p, p < s'.sync.queues.length → gh'.gone p →
      (rget s'.localConnectStatus p).lastFrame < s'.sync.lastSavedFrame) :
    SessInvD s' gh' t0 reqs' s'.localConnectStatus := by
  have hlp := P2P.localPlayerHandles_congr hh
  have hb : ∀ {p}, p < s'.sync.queues.length → p < s.sync.queues.length := fun hp => by
    rw [← h.nst, ← hst, hinv.sync.nq]; exact hp
  refine ⟨hinv, Marks.refl _, hask, (fun p _ h0 h1 => by rw [h0] at h1; cases h1), fun p hp hng => ?_,
    (fun p hp hnl => by rw [hsp, hst]; exact h.remote p (hb hp) (hlp ▸ hnl)), (by rw [hst, hlp]; exact h.localAlive),
    fun p hp hg => ?_, hdf.elim Or.inl fun e => e ▸ h.dfok, fun p hp _ => hclean p hp, hsaved⟩
  · have hng0 : ¬ gh.gone p := hgo ▸ hng
    rw [hst, lastAdded_of_QI (hinv.sync.live p hp hng), hsp, ← lastAdded_of_QI (h.tinv.sync.live p (hb hp) hng0)]
    exact h.status p (hb hp) hng0
  · obtain ⟨hs1, _, hs3⟩ := h.safe p (hb hp) (hgo ▸ hg)
    rw [hst]
    refine ⟨fun hne => ?_, fun q hq hne => absurd (hclean q hq) hne, fun q hq hc => hs3 q (hb hq) (h.marks.alive hc)⟩
    rcases hdf with e | e
    · exact absurd e hne
    · rw [e] at hne ⊢; exact hs1 hne

theorem SessInvD_of_settledD (s s' : P2P) (gh gh' : DGhost) (t0 : TLState) (reqs reqs' : List Request)
    (st0 : List ConnStatus) (h : SessInvD s gh t0 reqs st0) (hs : SettledD s s' gh gh' t0 reqs') :
    SessInvD s' gh' t0 reqs' s'.localConnectStatus :=
  h.of_tinvD (by rw [hs.pred, hs.statuses]; exact hs.inv) (by rw [hs.statuses]; exact hs.asked) hs.clean hs.specs
    hs.gone hs.statuses hs.rest.1 (Or.inl hs.df) fun hsp p hp hg => by
      rw [hs.statuses]
      exact hs.saved (hs.sparse ▸ hsp) p (hs.nq ▸ hp) (hs.gone ▸ hg)

theorem asked_dead (q : InputQueue) (cs : ConnStatus) (cur : Int) (hd : cs.disconnected = true)
    (hst : cs.lastFrame ≤ q.lastAddedFrame) : Asked q (pcur cs cur) := by
  intro _
  right
  unfold pcur
  rw [if_pos hd]
  omega

/-- `set_last_confirmed_frame` right after the rollback phase: queues are trimmed as in
`setLastConfirmed_spec`, except that a dead player's queue that the confirmed frame has passed is
emptied — that player is `gone` from now on. -/
theorem setLastConfirmed_specD (s : P2P) (sy' : SyncLayer) (gh : DGhost) (t0 : TLState) (reqs : List Request)
    (frame : Frame) (h : SessInvD s gh t0 reqs s.localConnectStatus)
    (hclean : ∀ p, p < s.sync.queues.length → (rget s.sync.queues p).firstIncorrectFrame = NULL_FRAME)
    (hdf : s.disconnectFrame = NULL_FRAME)
    (hright : TimelineRightD s.sync s.localConnectStatus gh)
    (hle : ∀ p, p < s.sync.queues.length → (rget s.localConnectStatus p).disconnected = false →
      frame ≤ (rget s.localConnectStatus p).lastFrame)
    (hset : s.sync.setLastConfirmedFrame frame s.sparse = .ok sy') :
    ∃ gh' : DGhost, SessInvD { s with sync := sy' } gh' t0 reqs s.localConnectStatus ∧
      gh'.specs = gh.specs ∧ gh'.T = gh.T ∧ (∀ p, gh.gone p → gh'.gone p) ∧
      sy'.currentFrame = s.sync.currentFrame ∧ sy'.queues.length = s.sync.queues.length ∧
      (∀ p, p < sy'.queues.length → (rget sy'.queues p).firstIncorrectFrame = NULL_FRAME) := by
  obtain ⟨fr, qs, hfr, rfl, hpos, hzero⟩ := SyncLayer.setLastConfirmedFrame_ok hset
  by_cases h0 : 0 < fr
  rotate_left
  · rw [hzero h0]
    exact ⟨gh, SessInvD_sameQueues s _ gh t0 reqs _ h rfl rfl rfl rfl rfl rfl rfl rfl, rfl, rfl, fun _ hg => hg,
      rfl, rfl, hclean⟩
  obtain ⟨hl, hpt⟩ := mapM_ok _ _ _ (hpos h0)
  have hb : ∀ {p}, p < qs.length → p < s.sync.queues.length := fun hp => hl ▸ hp
  -- the queues are trimmed to `fr - 1`; the three upper bounds of `fr` are what `GoneOk.lt`, `safe` and
  -- `saved` ask of a player given up now
  obtain ⟨hfrle, hfrcur, hfrls⟩ : fr ≤ frame ∧ fr ≤ s.sync.currentFrame ∧
      (s.sparse = true → fr ≤ s.sync.lastSavedFrame) := by
    rw [hfr]
    refine ⟨?_, Int.min_le_right _ _, fun hsp => ?_⟩
    · split
      · exact Int.le_trans (Int.min_le_left _ _) (Int.min_le_left _ _)
      · exact Int.min_le_left _ _
    · rw [if_pos hsp]
      exact Int.le_trans (Int.min_le_left _ _) (Int.min_le_right _ _)
  have hfi : ∀ p, p < s.sync.queues.length → (rget qs p).firstIncorrectFrame = NULL_FRAME := fun p hp => by
    rw [(discard_fields _ _ _ (hpt p hp)).2.1]; exact hclean p hp
  let gone' : Nat → Prop := fun p => gh.gone p ∨
    (p < s.sync.queues.length ∧ (rget s.localConnectStatus p).disconnected = true ∧
      ¬ (fr - 1 < (rget s.sync.queues p).lastAddedFrame))
  have hnew : ∀ p, p < s.sync.queues.length → ¬ gh.gone p → gone' p →
      (rget s.localConnectStatus p).disconnected = true ∧ (rget s.localConnectStatus p).lastFrame < fr := by
    intro p hp hg0 hg
    obtain ⟨_, hd, hx⟩ := hg.resolve_left hg0
    exact ⟨hd, Int.lt_of_le_sub_one (Int.le_trans (h.status p hp hg0) (Int.not_lt.mp hx))⟩
  -- to such a queue `QI_discard` does not apply. `GoneOk` keeps its slots and its column up to the last
  -- frame, which `hright` provides: this is the moment every queue is clean
  have hgone : ∀ p, p < s.sync.queues.length → gone' p →
      GoneOk (rget qs p) (rget s.localConnectStatus p) (gh.specs p) (gh.T p) s.sync.currentFrame := by
    intro p hp hg
    by_cases hg0 : gh.gone p
    · exact (h.tinv.sync.gone p hp hg0).discard (hpt p hp)
    · obtain ⟨hd, hlt⟩ := hnew p hp hg0 hg
      have hltc := Int.lt_of_lt_of_le hlt hfrcur
      exact ⟨hd, hltc, hfi p hp, fun f hf hlen => hright p hp f (Int.lt_of_le_of_lt hf hltc) hlen fun _ => hf,
        refines_discard_any _ _ _ _ (h.tinv.sync.live p hp hg0).ring (hpt p hp)⟩
  -- every other queue holds a frame beyond `fr - 1`; for a connected player because
  -- `fr ≤ frame ≤ last_frame ≤ last_added_frame`
  have hlive : ∀ p, p < s.sync.queues.length → ¬ gone' p →
      QI s.pred (rget qs p) (gh.specs p) (gh.hists p) (gh.T p) (pcur (rget s.localConnectStatus p) s.sync.currentFrame) ∧
      Asked (rget qs p) (pcur (rget s.localConnectStatus p) s.sync.currentFrame) := by
    intro p hp hng
    have hng0 : ¬ gh.gone p := fun hg => hng (Or.inl hg)
    have hst := h.status p hp hng0
    refine QI_discard s.pred _ _ _ _ _ _ (fr - 1) (h.tinv.sync.live p hp hng0) ?_ ?_ (hpt p hp)
    · by_cases hd : (rget s.localConnectStatus p).disconnected = true
      · exact asked_dead _ _ _ hd hst
      · rw [pcur_alive _ _ (by simpa using hd)]
        exact h.asked p hp (by simpa using hd)
    · by_cases hd : (rget s.localConnectStatus p).disconnected = true
      · exact Decidable.not_not.mp fun hx => hng (Or.inr ⟨hp, hd, hx⟩)
      · exact Int.sub_one_lt_of_le (Int.le_trans hfrle (Int.le_trans (hle p hp (by simpa using hd)) hst))
  refine ⟨⟨gh.specs, gh.hists, gh.T, gone'⟩, ⟨⟨⟨h.tinv.sync.cur, h.tinv.sync.nq.trans hl.symm,
      fun p hp => hgone p (hb hp), fun p hp hng => (hlive p (hb hp) hng).1⟩,
      h.tinv.exec, fun p hp => h.tinv.rows p (hb hp), fun p hp => h.tinv.deadRows p (hb hp)⟩, Marks.refl _,
      ?_, (fun p _ h0 h1 => by rw [h0] at h1; cases h1), ?_, fun p hp => h.remote p (hb hp), h.localAlive, ?_, h.dfok,
      fun p hp _ => hfi p (hb hp), ?_⟩, rfl, rfl, fun p hg => Or.inl hg, rfl, hl, fun p hp => hfi p (hb hp)⟩
  · intro p hp hc
    have hng : ¬ gone' p := by
      rintro (hg | ⟨_, hd, _⟩)
      · have := (h.tinv.sync.gone p (hb hp) hg).dead; rw [hc] at this; cases this
      · rw [hc] at hd; cases hd
    exact pcur_alive _ s.sync.currentFrame hc ▸ (hlive p (hb hp) hng).2
  · intro p hp hng
    have hng0 : ¬ gh.gone p := fun hg => hng (Or.inl hg)
    show (rget s.localConnectStatus p).lastFrame ≤ (rget qs p).lastAddedFrame
    rw [lastAdded_of_QI (hlive p (hb hp) hng).1, ← lastAdded_of_QI (h.tinv.sync.live p (hb hp) hng0)]
    exact h.status p (hb hp) hng0
  · intro p hp hg
    refine ⟨fun hne => absurd hdf hne, fun q hq hne => absurd (hfi q (hb hq)) hne, fun q hq hc => ?_⟩
    by_cases hg0 : gh.gone p
    · exact (h.safe p (hb hp) hg0).2.2 q (hb hq) hc
    · exact Int.lt_of_lt_of_le (hnew p (hb hp) hg0 hg).2 (Int.le_trans hfrle (hle q (hb hq) hc))
  · intro hsp p hp hg
    by_cases hg0 : gh.gone p
    · exact h.saved hsp p (hb hp) hg0
    · exact Int.lt_of_lt_of_le (hnew p (hb hp) hg0 hg).2 (hfrls hsp)

theorem update_pointwiseD {P : Nat → InputQueue → ConnStatus → ConnStatus → QSpec → Prop} {qs : List InputQueue}
    {st0 sts : List ConnStatus} {p : Nat} (specs : Nat → QSpec) (q' : InputQueue) (c0 c1 : ConnStatus) (sp' : QSpec)
    (hq : p < qs.length) (h0 : p < st0.length) (h1 : p < sts.length)
    (h : ∀ i, P i (rget qs i) (rget st0 i) (rget sts i) (specs i)) (hp : P p q' c0 c1 sp') (i : Nat) :
    P i (rget (rset qs p q') i) (rget (rset st0 p c0) i) (rget (rset sts p c1) i) (if i = p then sp' else specs i) := by
  by_cases hip : i = p
  · rw [hip, rget_rset_eq _ _ _ hq, rget_rset_eq _ _ _ h0, rget_rset_eq _ _ _ h1, if_pos rfl]
    exact hp
  · rw [rget_rset_ne _ _ _ _ (Ne.symm hip), rget_rset_ne _ _ _ _ (Ne.symm hip), rget_rset_ne _ _ _ _ (Ne.symm hip),
      if_neg hip]
    exact h i

theorem SessInvD_update (s : P2P) (gh : DGhost) (t0 : TLState) (reqs : List Request) (st0 : List ConnStatus)
    (h : SessInvD s gh t0 reqs st0)
    (p : Nat) (hp : p < s.sync.queues.length) (hc : (rget s.localConnectStatus p).disconnected = false)
    (q' : InputQueue) (sp' : QSpec) (lf : Frame)
    (hqi : QI s.pred q' sp' (gh.hists p) (gh.T p) s.sync.currentFrame) (hask : Asked q' s.sync.currentFrame)
    (hlf : (rget s.localConnectStatus p).lastFrame ≤ lf) (hst : lf ≤ q'.lastAddedFrame)
    (hrem : p ∉ s.localPlayerHandles → sp'.delay = 0 ∧ sp'.lastUser = lf ∧ (sp'.vals.length : Int) = sp'.lastUser + 1)
    (hfi : q'.firstIncorrectFrame = (rget s.sync.queues p).firstIncorrectFrame ∨
      (rget s.localConnectStatus p).lastFrame < q'.firstIncorrectFrame) :
    SessInvD { s with sync := { s.sync with queues := rset s.sync.queues p q' },
                      localConnectStatus := rset s.localConnectStatus p ⟨false, lf⟩ }
      { gh with specs := fun i => if i = p then sp' else gh.specs i } t0 reqs (rset st0 p ⟨false, lf⟩) := by
  -- every field but `safe` is one statement per player about its queue, two statuses and stream:
  -- `update_pointwiseD`. `safe` compares a given-up player with `p`: that is what `hlf` and `hfi` are for
  have hb : ∀ {i}, i < (rset s.sync.queues p q').length → i < s.sync.queues.length := fun hi => rset_length _ _ _ ▸ hi
  have hc0 := h.marks.alive hc
  have hng : ¬ gh.gone p := (h.liveQI hp hc).1
  have hdead : ∀ {P : Prop}, (⟨false, lf⟩ : ConnStatus).disconnected = true → P := fun hd => absurd hd Bool.false_ne_true
  have upd := fun P => @update_pointwiseD P _ _ _ _ gh.specs q' ⟨false, lf⟩ ⟨false, lf⟩ sp' hp (h.tinv.sync.nq ▸ hp)
    (h.nst ▸ hp)
  refine ⟨⟨⟨h.tinv.sync.cur, by rw [rset_length, rset_length]; exact h.tinv.sync.nq, fun i hi => ?_, fun i hi => ?_⟩,
    h.tinv.exec, fun i hi => h.tinv.rows i (hb hi), fun i hi => ?_⟩,
    ⟨by rw [rset_length, rset_length]; exact h.marks.len, ?_, ?_⟩,
    fun i hi => ?_, fun i hi => ?_, fun i hi => ?_, fun i hi => ?_, ?_, fun g hg hgg => ?_, h.dfok, fun i hi => ?_,
    fun hsp i hi => ?_⟩
  · exact upd (fun i q c0 _ sp => i < s.sync.queues.length → gh.gone i → GoneOk q c0 sp (gh.T i) s.sync.currentFrame)
      h.tinv.sync.gone (fun _ hg => absurd hg hng) i (hb hi)
  · exact upd (fun i q c0 _ sp => i < s.sync.queues.length → ¬ gh.gone i →
      QI s.pred q sp (gh.hists i) (gh.T i) (pcur c0 s.sync.currentFrame))
      h.tinv.sync.live (fun _ _ => (pcur_alive ⟨false, lf⟩ s.sync.currentFrame rfl).symm ▸ hqi) i (hb hi)
  · exact upd (fun i _ c0 _ _ => i < s.sync.queues.length → c0.disconnected = true → ∀ f : Nat,
      c0.lastFrame < (f : Int) → (f : Int) < s.sync.currentFrame →
      ((execReqs t0 reqs).R f).getD i default = (0, .disconnected)) h.tinv.deadRows (fun _ => hdead) i (hb hi)
  · exact upd (fun _ _ c0 c1 _ => c1.lastFrame = c0.lastFrame) h.marks.last rfl
  · exact upd (fun _ _ c0 c1 _ => c0.disconnected = true → c1.disconnected = true) h.marks.mono id
  · exact upd (fun i q _ c1 _ => i < s.sync.queues.length → c1.disconnected = false → Asked q s.sync.currentFrame)
      h.asked (fun _ _ => hask) i (hb hi)
  · exact upd (fun i _ c0 c1 _ => i < s.sync.queues.length → c0.disconnected = false → c1.disconnected = true →
      s.sync.currentFrame ≤ c0.lastFrame + 1 ∨ (s.disconnectFrame ≠ NULL_FRAME ∧ s.disconnectFrame ≤ c0.lastFrame + 1))
      h.pend (fun _ _ => hdead) i (hb hi)
  · exact upd (fun i q _ c1 _ => i < s.sync.queues.length → ¬ gh.gone i → c1.lastFrame ≤ q.lastAddedFrame)
      h.status (fun _ _ => hst) i (hb hi)
  · exact upd (fun i _ _ c1 sp => i < s.sync.queues.length → i ∉ s.localPlayerHandles →
      sp.delay = 0 ∧ sp.lastUser = c1.lastFrame ∧ (sp.vals.length : Int) = sp.lastUser + 1)
      h.remote (fun _ => hrem) i (hb hi)
  · exact upd (fun i _ _ c1 _ => i ∈ s.localPlayerHandles → c1.disconnected = false) h.localAlive fun _ => rfl
  · obtain ⟨hs1, hs2, hs3⟩ := h.safe g (hb hg) hgg
    have h3 := hs3 p hp hc0
    show (_ → (rget (rset s.localConnectStatus p _) g).lastFrame < _) ∧
      (∀ q, q < _ → _ → (rget (rset s.localConnectStatus p _) g).lastFrame < _) ∧
      (∀ q, q < _ → _ → (rget (rset s.localConnectStatus p _) g).lastFrame < _)
    rw [rget_rset_ne _ _ _ _ fun (e : p = g) => hng (e ▸ hgg)]
    refine ⟨hs1, fun q hq => ?_, fun q hq => ?_⟩
    · exact upd (fun q qq _ _ _ => q < s.sync.queues.length → qq.firstIncorrectFrame ≠ NULL_FRAME →
        (rget s.localConnectStatus g).lastFrame < qq.firstIncorrectFrame) hs2
        (fun _ hne => hfi.elim (fun e => e ▸ hs2 p hp (e ▸ hne)) (Int.lt_trans h3)) q (hb hq)
    · exact upd (fun q _ c0 c1 _ => q < s.sync.queues.length → c0.disconnected = false →
        (rget s.localConnectStatus g).lastFrame < c1.lastFrame) hs3 (fun _ _ => Int.lt_of_lt_of_le h3 hlf) q (hb hq)
  · exact upd (fun i q c0 _ _ => i < s.sync.queues.length → c0.disconnected = true → q.firstIncorrectFrame = NULL_FRAME)
      h.deadClean (fun _ => hdead) i (hb hi)
  · exact upd (fun i _ _ c1 _ => i < s.sync.queues.length → gh.gone i → c1.lastFrame < s.sync.lastSavedFrame)
      (h.saved hsp) (fun _ hg => absurd hg hng) i (hb hi)

theorem connStatus_eta (c : ConnStatus) (lf : Frame) (hc : c.disconnected = false) :
    ({ c with lastFrame := lf } : ConnStatus) = ⟨false, lf⟩ := by
  cases c; simp_all

theorem P2P.setStatus_lastFrame (s : P2P) (p : Nat) (lf : Frame)
    (hc : (rget s.localConnectStatus p).disconnected = false) :
    (s.setStatus p fun c => { c with lastFrame := lf }).localConnectStatus =
      rset s.localConnectStatus p ⟨false, lf⟩ :=
  congrArg (rset s.localConnectStatus p) (connStatus_eta _ _ hc)

theorem SessInvD_addInput (s : P2P) (gh : DGhost) (t0 : TLState) (reqs : List Request) (st0 : List ConnStatus)
    (h : SessInvD s gh t0 reqs st0) (p : Nat) (hp : p < s.sync.queues.length)
    (hc : (rget s.localConnectStatus p).disconnected = false) (inp : PlayerInput) (q' : InputQueue) (fr lf : Frame)
    (hadd : (rget s.sync.queues p).addInput inp = .ok (q', fr))
    (hlf : fr = ((gh.specs p).submit inp.frame inp.input).2 → (rget s.localConnectStatus p).lastFrame ≤ lf ∧
      lf < (((gh.specs p).submit inp.frame inp.input).1.vals.length : Int))
    (hrem : p ∉ s.localPlayerHandles → ((gh.specs p).submit inp.frame inp.input).1.delay = 0 ∧
      ((gh.specs p).submit inp.frame inp.input).1.lastUser = lf ∧
      (((gh.specs p).submit inp.frame inp.input).1.vals.length : Int) = lf + 1) :
    SessInvD { s with sync := { s.sync with queues := rset s.sync.queues p q' },
                      localConnectStatus := rset s.localConnectStatus p ⟨false, lf⟩ }
      { gh with specs := fun i => if i = p then ((gh.specs p).submit inp.frame inp.input).1 else gh.specs i }
      t0 reqs (rset st0 p ⟨false, lf⟩) ∧
    fr = ((gh.specs p).submit inp.frame inp.input).2 ∧
    (∀ i, (gh.specs i).vals.length ≤
      (if i = p then ((gh.specs p).submit inp.frame inp.input).1 else gh.specs i).vals.length) ∧
    (∀ i, (rget (rset s.localConnectStatus p (⟨false, lf⟩ : ConnStatus)) i).disconnected =
      (rget s.localConnectStatus i).disconnected) ∧
    (∀ i, (rget s.localConnectStatus i).disconnected = true → rget (rset s.sync.queues p q') i = rget s.sync.queues i ∧
      rget (rset s.localConnectStatus p (⟨false, lf⟩ : ConnStatus)) i = rget s.localConnectStatus i) := by
  obtain ⟨hng, hq0⟩ := h.liveQI hp hc
  obtain ⟨hqi, hask, hfr⟩ := QI_add s.pred _ q' _ _ _ _ inp.frame inp.input fr hq0 (h.asked p hp hc) hadd
  have hstat := h.status_len hp hng
  obtain ⟨hlf, hst⟩ := hlf hfr
  have hupd := SessInvD_update s gh t0 reqs st0 h p hp hc q' _ lf hqi hask hlf (by rw [lastAdded_of_QI hqi]; exact Int.le_sub_one_of_lt hst)
    (fun hnl => by obtain ⟨a, b, c⟩ := hrem hnl; exact ⟨a, b, by rw [b]; exact c⟩)
    ((addInput_fi _ q' _ inp fr hq0.ring hadd).imp_right (Int.lt_of_lt_of_le (Int.lt_of_le_sub_one hstat)))
  refine ⟨hupd, hfr, fun i => ?_, fun i => ?_, fun i hd => ?_⟩
  · split
    · rename_i hip; rw [hip]; exact (submit_facts (gh.specs p) inp.frame inp.input).1
    · exact Nat.le_refl _
  · rw [rget_rset _ _ _ _ (h.nst ▸ hp)]
    split
    · rename_i hip; rw [hip, hc]
    · rfl
  · have hip : p ≠ i := fun e => by rw [← e, hc] at hd; cases hd
    exact ⟨rget_rset_ne _ _ _ _ hip, rget_rset_ne _ _ _ _ hip⟩

/-- `handle_event` for `Event::Input`, as `remoteInput_spec`, while other players' disconnects may
be pending. -/
theorem remoteInput_specD (s s' : P2P) (gh : DGhost) (t0 : TLState) (reqs : List Request) (st0 : List ConnStatus)
    (now : Nat) (inp : PlayerInput) (player : Nat) (handles : List Nat) (addr : Nat)
    (h : SessInvD s gh t0 reqs st0) (hnl : player ∉ s.localPlayerHandles) (h0 : 0 ≤ inp.frame)
    (hev : s.handleEventCore now (.input inp player) handles addr = .ok s') :
    ∃ gh' st0', SessInvD s' gh' t0 reqs st0' ∧ gh'.T = gh.T ∧ gh'.gone = gh.gone ∧
      s'.sync.currentFrame = s.sync.currentFrame ∧ s'.handles = s.handles ∧ s'.pred = s.pred ∧
      s'.sync.queues.length = s.sync.queues.length ∧ s'.disconnectFrame = s.disconnectFrame ∧
      (∀ p, (gh.specs p).vals.length ≤ (gh'.specs p).vals.length) ∧
      (∀ p, (rget s'.localConnectStatus p).disconnected = (rget s.localConnectStatus p).disconnected) ∧
      (∀ p, (rget s.localConnectStatus p).disconnected = true → rget s'.localConnectStatus p = rget s.localConnectStatus p) ∧
      (∀ p, p ≠ player → gh'.specs p = gh.specs p) := by
  obtain ⟨_, hdead, hlive⟩ := P2P.handleEventCore_input_ok hev
  by_cases hd : (rget s.localConnectStatus player).disconnected = true
  · rw [hdead hd]
    exact ⟨gh, st0, h, rfl, rfl, rfl, rfl, rfl, rfl, rfl, fun _ => Nat.le_refl _, fun _ => rfl, fun _ _ => rfl, fun _ _ => rfl⟩
  have hnd : (rget s.localConnectStatus player).disconnected = false := by simpa using hd
  obtain ⟨hseq, sy, hadd, rfl⟩ := hlive hnd
  obtain ⟨hp, q', fr, haq, rfl⟩ := SyncLayer.addRemoteInput_ok hadd
  obtain ⟨hdl, hlu, hlen⟩ := h.remote player hp hnl
  obtain ⟨hd', hlu', hlen'⟩ := submit_remote (gh.specs player) inp.frame inp.input h0 hdl
    (by rw [hlu]; exact hseq.imp id Eq.symm) hlen
  have hnull : NULL_FRAME = (-1 : Int) := rfl
  obtain ⟨hupd, _, hgrow, hflags, hdeadq⟩ := SessInvD_addInput s gh t0 reqs st0 h player hp hnd inp q' fr inp.frame haq
    (fun _ => ⟨by rcases hseq with h1 | h1 <;> omega, by omega⟩) fun _ => ⟨hd', hlu', hlen'⟩
  have hst := P2P.setStatus_lastFrame s player inp.frame hnd
  exact ⟨_, _, SessInvD_sameQueues _ _ _ t0 reqs _ hupd rfl rfl rfl rfl hst rfl rfl rfl, rfl, rfl, rfl, rfl, rfl,
    rset_length _ _ _, rfl, hgrow, fun p => by rw [hst]; exact hflags p,
    fun p hdp => by rw [hst]; exact (hdeadq p hdp).2, fun p hp => if_neg hp⟩

theorem P2P.SameCore.setStatus {a b : P2P} (h : P2P.SameCore a b) (hd : Nat) (f : ConnStatus → ConnStatus) :
    P2P.SameCore (a.setStatus hd f) (b.setStatus hd f) :=
  ⟨h.sync, h.pred, by unfold P2P.setStatus; rw [h.statuses], h.sparse, h.maxPrediction, h.handles, h.pending,
    h.numPlayers, h.disconnectFrame⟩

theorem registerOne_specD (s s' : P2P) (gh : DGhost) (t0 : TLState) (reqs : List Request) (st0 : List ConnStatus)
    (hd : Nat) (h : SessInvD s gh t0 reqs st0) (hloc : hd ∈ s.localPlayerHandles) (hreg : s.registerOne hd = .ok s') :
    ∃ gh' st0', SessInvD s' gh' t0 reqs st0' ∧ gh'.T = gh.T ∧ gh'.gone = gh.gone ∧
      s'.sync.currentFrame = s.sync.currentFrame ∧
      s'.handles = s.handles ∧ s'.pred = s.pred ∧ s'.maxPrediction = s.maxPrediction ∧
      s'.sync.queues.length = s.sync.queues.length ∧ s'.sync.lastConfirmedFrame = s.sync.lastConfirmedFrame ∧
      s'.disconnectFrame = s.disconnectFrame ∧
      (st0 = s.localConnectStatus → st0' = s'.localConnectStatus) ∧
      (∀ p, (gh.specs p).vals.length ≤ (gh'.specs p).vals.length) ∧
      (∀ p, (rget s'.localConnectStatus p).disconnected = (rget s.localConnectStatus p).disconnected) ∧
      (∀ p, (rget s.localConnectStatus p).disconnected = true → rget s'.sync.queues p = rget s.sync.queues p ∧
        rget s'.localConnectStatus p = rget s.localConnectStatus p) ∧
      (∀ p, p ≠ hd → gh'.specs p = gh.specs p) ∧
      (∃ pi, s.pendingInputOf hd = .ok pi ∧
        gh'.specs = fun i => if i = hd then ((gh.specs hd).submit pi.frame pi.input).1 else gh.specs i) := by
  obtain ⟨pi, sy, fr, hpi, hadd, hnull, hland⟩ := P2P.registerOne_ok hreg
  obtain ⟨_, hp, q', haq, rfl⟩ := SyncLayer.addLocalInput_ok hadd
  have hnd : (rget s.localConnectStatus hd).disconnected = false := h.localAlive hd hloc
  have hstat := h.status_len hp (h.liveQI hp hnd).1
  obtain ⟨hge, hlen⟩ := submit_facts (gh.specs hd) pi.frame pi.input
  have hge' : ((gh.specs hd).vals.length : Int) ≤ (((gh.specs hd).submit pi.frame pi.input).1.vals.length : Int) :=
    Int.ofNat_le.mpr hge
  by_cases hact : fr = NULL_FRAME
  · -- the input was dropped: nothing but the queue's bookkeeping changes
    rw [hnull hact]
    obtain ⟨hupd, _, hgrow, _, hdeadq⟩ := SessInvD_addInput s gh t0 reqs st0 h hd hp hnd pi q' fr
      (rget s.localConnectStatus hd).lastFrame haq (fun _ => ⟨Int.le_refl _, Int.lt_of_lt_of_le (Int.lt_of_le_sub_one hstat) hge'⟩) fun hc => absurd hloc hc
    have e1 : (⟨false, (rget s.localConnectStatus hd).lastFrame⟩ : ConnStatus) = rget s.localConnectStatus hd :=
      (connStatus_eta (rget s.localConnectStatus hd) _ hnd).symm
    rw [e1, rset_rget_self _ _ (h.nst ▸ hp)] at hupd
    refine ⟨_, _, hupd, rfl, rfl, rfl, rfl, rfl, rfl, rset_length _ _ _, rfl, rfl,
      fun he => by rw [he, rset_rget_self _ _ (h.nst ▸ hp)], hgrow, fun _ => rfl,
      fun p hdp => ⟨(hdeadq p hdp).1, rfl⟩, fun p hp => if_neg hp, pi, hpi, rfl⟩
  · obtain ⟨s2, hbl, hout⟩ := hland hact
    have hcore := ((P2P.queueInitialBlanks_sameCore _ _ _ _ hbl).setStatus hd _).trans
      (P2P.queueOutgoing_sameCore _ _ _ _ hout)
    obtain ⟨hupd, hfrs, hgrow, hflags, hdeadq⟩ := SessInvD_addInput s gh t0 reqs st0 h hd hp hnd pi q' fr fr haq
      (fun hfrs => by have := hlen (hfrs ▸ hact); omega) fun hc => absurd hloc hc
    have hs2 : (({ s with sync := { s.sync with queues := rset s.sync.queues hd q' } } : P2P).setStatus hd
        fun c => { c with lastFrame := fr }) =
        { s with sync := { s.sync with queues := rset s.sync.queues hd q' },
                 localConnectStatus := rset s.localConnectStatus hd ⟨false, fr⟩ } := by
      unfold P2P.setStatus
      exact congrArg (fun c => ({ s with
        sync := { s.sync with queues := rset s.sync.queues hd q' },
        localConnectStatus := rset s.localConnectStatus hd c } : P2P)) (connStatus_eta _ _ hnd)
    rw [hs2] at hcore
    refine ⟨_, _, SessInvD_congr _ s' _ t0 reqs _ hupd hcore, rfl, rfl, by rw [hcore.sync], hcore.handles, hcore.pred,
      hcore.maxPrediction, by rw [hcore.sync]; exact rset_length _ _ _, by rw [hcore.sync], hcore.disconnectFrame,
      fun he => by rw [hcore.statuses, he], hgrow, by rw [hcore.statuses]; exact hflags,
      by rw [hcore.sync, hcore.statuses]; exact hdeadq, fun p hp => if_neg hp, pi, hpi, rfl⟩

structure RegKeepsD (s s' : P2P) (gh gh' : DGhost) : Prop where
  T : gh'.T = gh.T
  gone : gh'.gone = gh.gone
  cur : s'.sync.currentFrame = s.sync.currentFrame
  handles : s'.handles = s.handles
  pred : s'.pred = s.pred
  maxPrediction : s'.maxPrediction = s.maxPrediction
  nq : s'.sync.queues.length = s.sync.queues.length
  lastConfirmed : s'.sync.lastConfirmedFrame = s.sync.lastConfirmedFrame
  df : s'.disconnectFrame = s.disconnectFrame
  grows : ∀ p, (gh.specs p).vals.length ≤ (gh'.specs p).vals.length
  flags : ∀ p, (rget s'.localConnectStatus p).disconnected = (rget s.localConnectStatus p).disconnected
  deadQ : ∀ p, (rget s.localConnectStatus p).disconnected = true → rget s'.sync.queues p = rget s.sync.queues p ∧
    rget s'.localConnectStatus p = rget s.localConnectStatus p
  remoteSpecs : ∀ p, p ∉ s.localPlayerHandles → gh'.specs p = gh.specs p

theorem RegKeepsD.refl (s : P2P) (gh : DGhost) : RegKeepsD s s gh gh :=
  ⟨rfl, rfl, rfl, rfl, rfl, rfl, rfl, rfl, rfl, fun _ => Nat.le_refl _, fun _ => rfl, fun _ _ => ⟨rfl, rfl⟩, fun _ _ => rfl⟩

theorem RegKeepsD.trans {a b c : P2P} {ga gb gc : DGhost} (h1 : RegKeepsD a b ga gb) (h2 : RegKeepsD b c gb gc) :
    RegKeepsD a c ga gc :=
  ⟨h2.T.trans h1.T, h2.gone.trans h1.gone, h2.cur.trans h1.cur, h2.handles.trans h1.handles, h2.pred.trans h1.pred,
    h2.maxPrediction.trans h1.maxPrediction, h2.nq.trans h1.nq, h2.lastConfirmed.trans h1.lastConfirmed,
    h2.df.trans h1.df, fun p => Nat.le_trans (h1.grows p) (h2.grows p), fun p => (h2.flags p).trans (h1.flags p),
    fun p hd => ⟨(h2.deadQ p ((h1.flags p).trans hd)).1.trans (h1.deadQ p hd).1,
      (h2.deadQ p ((h1.flags p).trans hd)).2.trans (h1.deadQ p hd).2⟩,
    fun p hnl => (h2.remoteSpecs p (P2P.localPlayerHandles_congr h1.handles ▸ hnl)).trans (h1.remoteSpecs p hnl)⟩

theorem RegKeepsD.of_sameCore {a b : P2P} (hc : P2P.SameCore a b) (gh : DGhost) : RegKeepsD a b gh gh :=
  ⟨rfl, rfl, by rw [hc.sync], hc.handles, hc.pred, hc.maxPrediction, by rw [hc.sync], by rw [hc.sync],
    hc.disconnectFrame, fun _ => Nat.le_refl _, fun _ => by rw [hc.statuses],
    fun _ _ => by rw [hc.sync, hc.statuses]; exact ⟨rfl, rfl⟩, fun _ _ => rfl⟩

theorem registerOne_keepsD (s s1 : P2P) (gh : DGhost) (t0 : TLState) (reqs : List Request) (a : Nat)
    (h : SessInvD s gh t0 reqs s.localConnectStatus) (hla : a ∈ s.localPlayerHandles) (h1 : s.registerOne a = .ok s1) :
    ∃ gh1, SessInvD s1 gh1 t0 reqs s1.localConnectStatus ∧ RegKeepsD s s1 gh gh1 ∧
      ∃ pi, s.pendingInputOf a = .ok pi ∧
        gh1.specs = fun i => if i = a then ((gh.specs a).submit pi.frame pi.input).1 else gh.specs i := by
  obtain ⟨gh1, st1, hinv1, hT1, hg1, hc1, hh1, hp1, hm1, hn1, hlc1, hdf1, hst1, hgr1, hfl1, hdq1, hrs1, hpi⟩ :=
    registerOne_specD s s1 gh t0 reqs s.localConnectStatus a h hla h1
  rw [hst1 rfl] at hinv1
  exact ⟨gh1, hinv1, ⟨hT1, hg1, hc1, hh1, hp1, hm1, hn1, hlc1, hdf1, hgr1, hfl1, hdq1,
    fun p hnl => hrs1 p fun he => hnl (he ▸ hla)⟩, hpi⟩

theorem registerFold_specD (t0 : TLState) (reqs : List Request) : ∀ (l : List Nat) (s s' : P2P) (gh : DGhost),
    SessInvD s gh t0 reqs s.localConnectStatus → (∀ x ∈ l, x ∈ s.localPlayerHandles) →
    l.foldlM P2P.registerOne s = .ok s' →
    ∃ gh', SessInvD s' gh' t0 reqs s'.localConnectStatus ∧ RegKeepsD s s' gh gh' := by
  intro l
  induction l with
  | nil =>
    intro s s' gh h _ hf
    simp only [List.foldlM_nil] at hf
    obtain rfl := pure_ok hf
    exact ⟨gh, h, RegKeepsD.refl s gh⟩
  | cons a rest ih =>
    intro s s' gh h hl hf
    simp only [List.foldlM_cons] at hf
    obtain ⟨s1, h1, hf⟩ := bind_ok hf
    obtain ⟨gh1, hinv1, hk1, _⟩ := registerOne_keepsD s s1 gh t0 reqs a h (hl a List.mem_cons_self) h1
    obtain ⟨gh', hinv', hk⟩ := ih s1 s' gh1 hinv1
      (fun x hx => by rw [P2P.localPlayerHandles_congr hk1.handles]; exact hl x (List.mem_cons_of_mem _ hx)) hf
    exact ⟨gh', hinv', hk1.trans hk⟩

theorem registerLocalInputs_specD (s s' : P2P) (gh : DGhost) (t0 : TLState) (reqs : List Request) (now : Nat)
    (h : SessInvD s gh t0 reqs s.localConnectStatus) (hreg : s.registerLocalInputs now = .ok s') :
    ∃ gh', SessInvD s' gh' t0 reqs s'.localConnectStatus ∧ RegKeepsD s s' gh gh' := by
  obtain ⟨s1, hfold, hsend⟩ := P2P.registerLocalInputs_ok hreg
  obtain ⟨gh', hinv, hk⟩ := registerFold_specD t0 reqs _ s s1 gh h (fun x hx => hx) hfold
  have hc := P2P.sendReady_sameCore _ _ _ hsend
  have hinv' := SessInvD_congr s1 s' gh' t0 reqs _ hinv hc
  rw [← hc.statuses] at hinv'
  exact ⟨gh', hinv', hk.trans (RegKeepsD.of_sameCore hc gh')⟩

theorem rollbackGate_specD (s s' : P2P) (gh : DGhost) (t0 : TLState) (reqs reqs' : List Request)
    (h : SessInvD s gh t0 reqs s.localConnectStatus)
    (hg : s.rollbackGate reqs = .ok (s', reqs')) :
    ∃ gh', SessInvD s' gh' t0 reqs' s'.localConnectStatus ∧ gh'.specs = gh.specs ∧ gh'.gone = gh.gone ∧
      s'.localConnectStatus = s.localConnectStatus ∧ s'.handles = s.handles ∧ s'.pred = s.pred ∧
      s'.sync.queues.length = s.sync.queues.length ∧
      ((s' = s ∧ reqs' = reqs ∧ gh' = gh) ∨
       (∃ (c : Nat) (ins : List (Input × InputStatus)), s.sync.currentFrame = (c : Int) ∧
          reqs' = reqs ++ [.advance ins] ∧ InputsOkD s.pred gh s.localConnectStatus c ins ∧
          ins.length = s.sync.queues.length ∧
          s'.sync.currentFrame = s.sync.currentFrame + 1)) := by
  rcases P2P.rollbackGate_ok hg with ⟨_, rfl, rfl⟩ | ⟨_, sy1, ins, hsim, rfl, rfl⟩
  · exact ⟨gh, h, rfl, rfl, rfl, rfl, rfl, rfl, Or.inl ⟨rfl, rfl, rfl⟩⟩
  obtain ⟨qs, hloop, rfl⟩ := SyncLayer.synchronizedInputs_ok hsim
  obtain ⟨c, hc⟩ : ∃ c : Nat, s.sync.currentFrame = (c : Int) := ⟨_, (Int.toNat_of_nonneg h.tinv.sync.cur).symm⟩
  rw [hc] at hloop
  obtain ⟨hlen, hil, hok, hask, hcl, gh', hsp, hgo, hinv⟩ := TInvD_simulate s.pred s.sync
    ({ s.sync with queues := qs } : SyncLayer).advanceFrame s.localConnectStatus gh t0 reqs [] c ins h.tinv hc hloop
    (fun _ hr => nomatch hr) (by show s.sync.currentFrame + 1 = _; rw [hc])
  simp only [List.append_nil] at hinv
  have hb : ∀ {p}, p < qs.length → p < s.sync.queues.length := fun hp => hlen ▸ hp
  refine ⟨gh', h.of_tinvD hinv (fun p hp hconn => ?_) (fun p hp => hcl p (hb hp) fun hsk => h.deadClean p (hb hp) hsk.1)
      hsp hgo rfl rfl (Or.inr rfl) fun hsp' p hp hg' => h.saved hsp' p (hb hp) (hgo ▸ hg'),
    hsp, hgo, rfl, rfl, rfl, hlen, Or.inr ⟨c, ins, hc, rfl, hok, hil, rfl⟩⟩
  show Asked (rget qs p) (s.sync.currentFrame + 1)
  rw [hc]; exact hask p (hb hp) hconn

/-- `advance_rollback_frame` up to the prediction gate: the rollback phase (`SettledD`), the
confirmed-frame bookkeeping (`gh3`, on `{ s2 with sync := sy3 }`) and the registration of the
local inputs (`gh4`, on `s4`). -/
structure PreGateD (s s' : P2P) (gh : DGhost) (t0 : TLState) (reqs reqs' : List Request) (now : Nat)
    (confirmed : Frame) (s1 : P2P) (reqs1 : List Request) (s2 : P2P) (sy3 : SyncLayer) (s4 : P2P)
    (gh1 gh3 gh4 : DGhost) : Prop where
  conf : s.confirmedFrame = .ok confirmed
  rs : s.handleRollbackAndSave confirmed reqs = .ok (s1, reqs1)
  settled : SettledD s s1 gh gh1 t0 reqs1
  right : TimelineRightD s1.sync s.localConnectStatus gh1
  spec : s1.sendConfirmedInputsToSpectators now confirmed = .ok s2
  set : s2.sync.setLastConfirmedFrame confirmed s2.sparse = .ok sy3
  inv3 : SessInvD { s2 with sync := sy3 } gh3 t0 reqs1 s.localConnectStatus
  specs3 : gh3.specs = gh1.specs
  T3 : gh3.T = gh1.T
  gone3 : ∀ p, gh1.gone p → gh3.gone p
  cur3 : sy3.currentFrame = s.sync.currentFrame
  nq3 : sy3.queues.length = s.sync.queues.length
  clean3 : ∀ p, p < sy3.queues.length → (rget sy3.queues p).firstIncorrectFrame = NULL_FRAME
  reg : ({ s2 with sync := sy3 } : P2P).registerLocalInputs now = .ok s4
  inv4 : SessInvD s4 gh4 t0 reqs1 s4.localConnectStatus
  keeps : RegKeepsD { s2 with sync := sy3 } s4 gh3 gh4
  gate : s4.rollbackGate reqs1 = .ok (s', reqs')

theorem advanceRollbackFrame_preGateD (s s' : P2P) (gh : DGhost) (t0 : TLState) (reqs reqs' : List Request) (now : Nat)
    (st0 : List ConnStatus) (h : SessInvD s gh t0 reqs st0)
    (hadv : s.advanceRollbackFrame now reqs = .ok (s', reqs')) :
    ∃ (confirmed : Frame) (s1 : P2P) (reqs1 : List Request) (s2 : P2P) (sy3 : SyncLayer) (s4 : P2P)
      (gh1 gh3 gh4 : DGhost), PreGateD s s' gh t0 reqs reqs' now confirmed s1 reqs1 s2 sy3 s4 gh1 gh3 gh4 := by
  obtain ⟨confirmed, s1, reqs1, s2, sy3, s4, hconf, hrs, hspec, hset, hreg, hgate⟩ := P2P.advanceRollbackFrame_ok hadv
  obtain ⟨gh1, hsettled, hright⟩ := handleRollbackAndSaveD s s1 confirmed t0 reqs reqs1 gh st0 h.tinv h.marks
    h.asked h.pend
    (fun p hp hg => by
      have := h.safe p hp hg
      have hsv := fun hsp => h.saved hsp p hp hg
      rw [h.marks.last] at this hsv
      exact ⟨this.1, this.2.1, hsv⟩) hrs
  -- spectators: network only
  have hc2 := P2P.sendConfirmed_sameCore _ _ _ _ hspec
  have hst2 : s2.localConnectStatus = s.localConnectStatus := hc2.statuses.trans hsettled.statuses
  have hnq2 : s2.sync.queues.length = s.sync.queues.length := by rw [hc2.sync, hsettled.nq]
  have hinv2 := SessInvD_congr s1 s2 gh1 t0 reqs1 _ (SessInvD_of_settledD s s1 gh gh1 t0 reqs reqs1 st0 h hsettled) hc2
  rw [← hc2.statuses] at hinv2
  obtain ⟨gh3, hinv3, hsp3, hT3, hgo3, hcur3, hnq3, hclean3⟩ := setLastConfirmed_specD s2 sy3 gh1 t0 reqs1 confirmed hinv2
    (by rw [hc2.sync]; exact hsettled.clean) (by rw [hc2.disconnectFrame]; exact hsettled.df)
    (by rw [hc2.sync, hst2]; exact hright)
    (fun p hp hc => by
      rw [hst2] at hc ⊢
      exact confirmedFrame_leD s confirmed hconf p (by rw [h.nst, ← hnq2]; exact hp) hc) hset
  obtain ⟨gh4, hinv4, hk4⟩ := registerLocalInputs_specD _ s4 gh3 t0 reqs1 now hinv3 hreg
  exact ⟨confirmed, s1, reqs1, s2, sy3, s4, gh1, gh3, gh4, hconf, hrs, hsettled, hright, hspec, hset, hst2 ▸ hinv3,
    hsp3, hT3, hgo3, by rw [hcur3, hc2.sync, hsettled.cur], hnq3.trans hnq2, hclean3, hreg, hinv4, hk4, hgate⟩

/-- `advance_rollback_frame` with dead players. After the requests `reqs1` of the rollback-and-save
phase (`SettledD.inv`, `TimelineRightD`): every simulated frame beyond the last frame of a player
marked disconnected — even since the previous call — carries the blank input with status
Disconnected for it, and every simulated frame whose input has arrived carries that input. -/
theorem advanceRollbackFrame_specD (s s' : P2P) (gh : DGhost) (t0 : TLState) (reqs reqs' : List Request) (now : Nat)
    (st0 : List ConnStatus) (h : SessInvD s gh t0 reqs st0)
    (hadv : s.advanceRollbackFrame now reqs = .ok (s', reqs')) :
    ∃ (s1 : P2P) (reqs1 : List Request) (gh1 gh2 gh' : DGhost),
      SettledD s s1 gh gh1 t0 reqs1 ∧ TimelineRightD s1.sync s.localConnectStatus gh1 ∧
      SessInvD s' gh' t0 reqs' s'.localConnectStatus ∧ s'.handles = s.handles ∧ s'.pred = s.pred ∧
      s'.sync.queues.length = s.sync.queues.length ∧
      (∀ p, (rget s'.localConnectStatus p).disconnected = (rget s.localConnectStatus p).disconnected) ∧
      (∀ p, (rget s.localConnectStatus p).disconnected = true → rget s'.localConnectStatus p = rget s.localConnectStatus p) ∧
      (∀ p, gh.gone p → gh'.gone p) ∧
      (∀ p, p ∉ s.localPlayerHandles → gh'.specs p = gh.specs p) ∧
      ((reqs' = reqs1 ∧ s'.sync.currentFrame = s.sync.currentFrame) ∨
       ∃ (c : Nat) (ins : List (Input × InputStatus)), s.sync.currentFrame = (c : Int) ∧
        reqs' = reqs1 ++ [.advance ins] ∧ ins.length = s.sync.queues.length ∧
        InputsOkD s.pred gh2 s.localConnectStatus c ins ∧ (∀ p, (gh1.specs p).vals.length ≤ (gh2.specs p).vals.length) ∧
        gh'.specs = gh2.specs ∧
        s'.sync.currentFrame = s.sync.currentFrame + 1) := by
  obtain ⟨confirmed, s1, reqs1, s2, sy3, s4, gh1, gh3, gh4, k⟩ :=
    advanceRollbackFrame_preGateD s s' gh t0 reqs reqs' now st0 h hadv
  have hc2 := P2P.sendConfirmed_sameCore _ _ _ _ k.spec
  have hst2 : s2.localConnectStatus = s.localConnectStatus := hc2.statuses.trans k.settled.statuses
  have hst4 : ∀ p, (rget s4.localConnectStatus p).disconnected = (rget s.localConnectStatus p).disconnected :=
    fun p => (k.keeps.flags p).trans (by rw [← hst2])
  have hdead4 : ∀ p, (rget s.localConnectStatus p).disconnected = true →
      rget s4.localConnectStatus p = rget s.localConnectStatus p := fun p hd =>
    (k.keeps.deadQ p (by rw [← hst2] at hd; exact hd)).2.trans (by rw [← hst2])
  obtain ⟨gh', hinv', hsp', hgo', hst', hh', hp', hnq', hcase⟩ := rollbackGate_specD s4 s' gh4 t0 reqs1 reqs' k.inv4 k.gate
  have hcur4 : s4.sync.currentFrame = s.sync.currentFrame := k.keeps.cur.trans k.cur3
  have hpred4 : s4.pred = s.pred := k.keeps.pred.trans (hc2.pred.trans k.settled.pred)
  have hh4 : s4.handles = s.handles := k.keeps.handles.trans (hc2.handles.trans k.settled.rest.1)
  have hnq4 : s4.sync.queues.length = s.sync.queues.length := k.keeps.nq.trans k.nq3
  refine ⟨s1, reqs1, gh1, gh4, gh', k.settled, k.right, hinv', hh'.trans hh4, hp'.trans hpred4, hnq'.trans hnq4,
    fun p => by rw [hst']; exact hst4 p, fun p hd => by rw [hst']; exact hdead4 p hd,
    fun p hg => by rw [hgo', k.keeps.gone]; exact k.gone3 p (k.settled.gone ▸ hg), fun p hnl => ?_, ?_⟩
  · have hlp2 : ({ s2 with sync := sy3 } : P2P).localPlayerHandles = s.localPlayerHandles :=
      P2P.localPlayerHandles_congr (hc2.handles.trans k.settled.rest.1)
    rw [hsp', k.keeps.remoteSpecs p (by rw [hlp2]; exact hnl), k.specs3, k.settled.specs]
  · rcases hcase with ⟨hs4, hr, _⟩ | ⟨c, ins, hc, hr, hok, hil, hcur'⟩
    · exact Or.inl ⟨hr, by rw [hs4]; exact hcur4⟩
    · have hskip : ∀ p, Skip (rget s4.localConnectStatus p) (c : Int) ↔ Skip (rget s.localConnectStatus p) (c : Int) := by
        intro p
        by_cases hd : (rget s.localConnectStatus p).disconnected = true
        · rw [hdead4 p hd]
        · exact ⟨fun hsk => absurd ((hst4 p).symm.trans hsk.1) hd, fun hsk => absurd hsk.1 hd⟩
      refine Or.inr ⟨c, ins, by rw [← hcur4]; exact hc, hr, by rw [hil, hnq4], ?_, ?_, hsp', by rw [hcur', hcur4]⟩
      · intro p hp
        obtain ⟨a, b⟩ := hok p hp
        rw [hpred4] at b
        exact ⟨fun hsk => a ((hskip p).mpr hsk), fun hns => b fun hsk => hns ((hskip p).mp hsk)⟩
      · intro p
        have := k.keeps.grows p
        rw [k.specs3] at this
        exact this

end Ggrs

namespace Ggrs.P2P

theorem updEp_find (g : Endpoint → Endpoint) (addr : Nat) : ∀ (l l' : List (Nat × Endpoint)) (ep : Endpoint),
    updEp l addr (fun e => pure (g e)) = .ok l' → findEp l addr = some ep → findEp l' addr = some (g ep) := by
  intro l
  induction l with
  | nil => intro l' ep _ hf; simp [findEp] at hf
  | cons x xs ih =>
    intro l' ep hu hf
    obtain ⟨a, e⟩ := x
    unfold updEp at hu
    simp only [List.mapM_cons] at hu
    obtain ⟨y, hy, hu⟩ := bind_ok hu
    obtain ⟨ys, hys, hu⟩ := bind_ok hu
    have := pure_ok hu
    subst this
    by_cases ha : (a == addr) = true
    · simp only [ha, if_true] at hy
      have hy' : y = (a, g e) := by
        simp only [bind, Except.bind, pure, Except.pure] at hy
        cases hy; rfl
      subst hy'
      simp only [findEp, List.find?_cons, ha, Option.map_some] at hf ⊢
      cases hf; rfl
    · have ha' : (a == addr) = false := by simpa using ha
      simp only [ha', Bool.false_eq_true, if_false] at hy
      have hy' : y = (a, e) := by
        have := pure_ok hy
        exact this.symm
      subst hy'
      simp only [findEp, List.find?_cons, ha'] at hf ⊢
      exact ih ys ep hys hf

theorem disconnect_handles (e : Endpoint) (now : Nat) : (e.disconnect now).handles = e.handles := by
  unfold Endpoint.disconnect; split <;> rfl

theorem markAll_frame : ∀ (hs : List Nat) (s : P2P), ∃ st,
    hs.foldl (fun s h => s.setStatus h fun c => { c with disconnected := true }) s = { s with localConnectStatus := st } := by
  intro hs
  induction hs with
  | nil => intro s; exact ⟨_, rfl⟩
  | cons h rest ih =>
    intro s
    obtain ⟨st, e⟩ := ih (s.setStatus h fun c => { c with disconnected := true })
    exact ⟨st, by rw [List.foldl_cons, e]; rfl⟩

theorem checkInitialSync_frame (s : P2P) : ∃ run, s.checkInitialSync = { s with running := run } := by
  unfold checkInitialSync
  split
  · exact ⟨_, rfl⟩
  · split
    · exact ⟨_, rfl⟩
    · exact ⟨_, rfl⟩

theorem markAll_statuses : ∀ (hs : List Nat) (s : P2P),
    let s' := hs.foldl (fun s h => s.setStatus h fun c => { c with disconnected := true }) s
    s'.localConnectStatus.length = s.localConnectStatus.length ∧
    (∀ g, g ∈ hs → g < s.localConnectStatus.length → (rget s'.localConnectStatus g).disconnected = true) ∧
    (∀ g, (rget s'.localConnectStatus g).lastFrame = (rget s.localConnectStatus g).lastFrame) ∧
    (∀ g, g ∉ hs → rget s'.localConnectStatus g = rget s.localConnectStatus g) ∧
    (∀ g, (rget s.localConnectStatus g).disconnected = true → (rget s'.localConnectStatus g).disconnected = true) := by
  intro hs
  induction hs with
  | nil => intro s; exact ⟨rfl, (fun g hg => by cases hg), fun _ => rfl, fun _ _ => rfl, fun _ h => h⟩
  | cons h rest ih =>
    intro s
    simp only [List.foldl_cons]
    obtain ⟨a0, a1, a2, a3, a4⟩ := ih (s.setStatus h fun c => { c with disconnected := true })
    have hlen : (s.setStatus h fun c => { c with disconnected := true }).localConnectStatus.length = s.localConnectStatus.length :=
      rset_length _ _ _
    have hone : ∀ g, rget (s.setStatus h fun c => { c with disconnected := true }).localConnectStatus g =
        if g = h ∧ h < s.localConnectStatus.length then { rget s.localConnectStatus g with disconnected := true }
        else rget s.localConnectStatus g := by
      intro g
      show rget (rset s.localConnectStatus h _) g = _
      by_cases hl : h < s.localConnectStatus.length
      · rw [rget_rset _ _ _ _ hl]
        by_cases hg : g = h
        · rw [if_pos hg, if_pos ⟨hg, hl⟩, hg]
        · rw [if_neg hg, if_neg fun x => hg x.1]
      · rw [if_neg fun x => hl x.2]
        simp [rset, List.set_eq_of_length_le (by omega : s.localConnectStatus.length ≤ h)]
    refine ⟨a0.trans hlen, ?_, ?_, ?_, ?_⟩
    · intro g hg hl
      rcases List.mem_cons.mp hg with he | hin
      · apply a4
        rw [hone g, if_pos ⟨he, he ▸ hl⟩]
      · exact a1 g hin (by rw [hlen]; exact hl)
    · intro g
      rw [a2 g, hone g]
      split <;> rfl
    · intro g hg
      rw [a3 g fun e => hg (List.mem_cons_of_mem _ e), hone g, if_neg fun x => hg (List.mem_cons.mpr (Or.inl (And.left x)))]
    · intro g hd
      apply a4
      rw [hone g]
      split
      · rfl
      · exact hd

theorem disconnectPlayerAtFrame_ok {s s' : P2P} {now handle : Nat} {lastFrame : Frame}
    (h : s.disconnectPlayerAtFrame now handle lastFrame = .ok s') :
    ∃ s1 : P2P, s' = s1.checkInitialSync ∧
      ((s.playerType handle = some .localPlayer ∧ s1 = s) ∨
       (∃ addr ep rm, s.playerType handle = some (.remote addr) ∧ findEp s.remotes addr = some ep ∧
          updEp s.remotes addr (fun e => pure (e.disconnect now)) = .ok rm ∧
          s1 = { s with
            localConnectStatus := (ep.handles.foldl (fun s h => s.setStatus h fun c => { c with disconnected := true }) s).localConnectStatus,
            remotes := rm,
            disconnectFrame := if s.sync.currentFrame > lastFrame + 1 then
                (if s.disconnectFrame == NULL_FRAME then lastFrame + 1 else min s.disconnectFrame (lastFrame + 1))
              else s.disconnectFrame }) ∨
       (∃ addr sp, s.playerType handle = some (.spectator addr) ∧ s1 = { s with spectators := sp })) := by
  unfold disconnectPlayerAtFrame at h
  cases hpt : s.playerType handle with
  | none => rw [hpt] at h; cases h
  | some pt =>
    rw [hpt] at h
    cases pt with
    | localPlayer =>
      simp only [pure_bind, pure_eq_ok] at h
      exact ⟨s, h.symm, Or.inl ⟨rfl, rfl⟩⟩
    | remote addr =>
      cases hep : findEp s.remotes addr with
      | none => simp only [hep] at h; cases h
      | some ep =>
        simp only [hep, pure_bind] at h
        obtain ⟨rm, hrm, h⟩ := bind_ok h
        obtain ⟨st, hst⟩ := markAll_frame ep.handles s
        rw [hst] at hrm h
        refine ⟨_, (pure_ok h).symm, Or.inr (Or.inl ⟨addr, ep, rm, rfl, hep, hrm, ?_⟩)⟩
        rw [hst]
        split <;> rfl
    | spectator addr =>
      simp only at h
      obtain ⟨_, h⟩ := ensure_bind_ok h
      obtain ⟨sp, _, h⟩ := bind_ok h
      simp only [pure_bind, pure_eq_ok] at h
      exact ⟨_, h.symm, Or.inr (Or.inr ⟨addr, sp, rfl, rfl⟩)⟩

theorem disconnectAt_frame (s s' : P2P) (now handle : Nat) (lastFrame : Frame)
    (h : s.disconnectPlayerAtFrame now handle lastFrame = .ok s') :
    ∃ st rm sp df run, s' = { s with localConnectStatus := st, remotes := rm, spectators := sp, disconnectFrame := df, running := run } := by
  obtain ⟨s1, rfl, hc⟩ := disconnectPlayerAtFrame_ok h
  obtain ⟨run, hrun⟩ := checkInitialSync_frame s1
  rw [hrun]
  rcases hc with ⟨_, rfl⟩ | ⟨_, _, _, _, _, _, rfl⟩ | ⟨_, _, _, rfl⟩
  · exact ⟨_, _, _, _, run, rfl⟩
  · exact ⟨_, _, _, _, run, rfl⟩
  · exact ⟨_, _, _, _, run, rfl⟩

theorem disconnectAt_remote (s s' : P2P) (now handle addr : Nat) (lastFrame : Frame) (ep : Endpoint)
    (hpt : s.playerType handle = some (.remote addr)) (hep : findEp s.remotes addr = some ep)
    (h : s.disconnectPlayerAtFrame now handle lastFrame = .ok s') :
    ∃ st rm run, s' = { s with
        localConnectStatus := st, remotes := rm, running := run,
        disconnectFrame := if s.sync.currentFrame > lastFrame + 1 then
            (if s.disconnectFrame == NULL_FRAME then lastFrame + 1 else min s.disconnectFrame (lastFrame + 1))
          else s.disconnectFrame } ∧
      st.length = s.localConnectStatus.length ∧
      (∀ g, g ∈ ep.handles → g < s.localConnectStatus.length → (rget st g).disconnected = true) ∧
      (∀ g, (rget st g).lastFrame = (rget s.localConnectStatus g).lastFrame) ∧
      (∀ g, g ∉ ep.handles → rget st g = rget s.localConnectStatus g) ∧
      (∀ g, (rget s.localConnectStatus g).disconnected = true → (rget st g).disconnected = true) ∧
      findEp rm addr = some (ep.disconnect now) := by
  obtain ⟨s1, rfl, hc⟩ := disconnectPlayerAtFrame_ok h
  obtain ⟨run, hrun⟩ := checkInitialSync_frame s1
  rw [hpt] at hc
  rcases hc with ⟨hx, _⟩ | ⟨addr', ep', rm, hx, hep', hupd, rfl⟩ | ⟨_, _, hx, _⟩
  · cases hx
  · cases hx
    rw [hep] at hep'
    cases hep'
    obtain ⟨m0, m1, m2, m3, m4⟩ := markAll_statuses ep.handles s
    exact ⟨_, rm, run, hrun, m0, m1, m2, m3, m4, updEp_find _ addr s.remotes rm ep hupd hep⟩
  · cases hx

theorem disconnectAt_fields (s s' : P2P) (now handle addr : Nat) (lastFrame : Frame) (ep : Endpoint)
    (hpt : s.playerType handle = some (.remote addr)) (hep : findEp s.remotes addr = some ep)
    (h : s.disconnectPlayerAtFrame now handle lastFrame = .ok s') :
    (∀ g, g ∈ ep.handles → g < s.localConnectStatus.length → (rget s'.localConnectStatus g).disconnected = true) ∧
    (∀ g, (rget s'.localConnectStatus g).lastFrame = (rget s.localConnectStatus g).lastFrame) ∧
    (∀ g, g ∉ ep.handles → rget s'.localConnectStatus g = rget s.localConnectStatus g) ∧
    s'.sync = s.sync ∧
    s'.disconnectFrame = (if s.sync.currentFrame > lastFrame + 1 then
        (if s.disconnectFrame == NULL_FRAME then lastFrame + 1 else min s.disconnectFrame (lastFrame + 1))
      else s.disconnectFrame) ∧
    s'.localConnectStatus.length = s.localConnectStatus.length ∧
    (∀ g, (rget s.localConnectStatus g).disconnected = true → (rget s'.localConnectStatus g).disconnected = true) ∧
    s'.handles = s.handles ∧ s'.pred = s.pred ∧ s'.sparse = s.sparse ∧ s'.numPlayers = s.numPlayers ∧
    findEp s'.remotes addr = some (ep.disconnect now) ∧
    s'.outgoingLocalInputs = s.outgoingLocalInputs ∧ s'.lastSentOutgoingInputFrame = s.lastSentOutgoingInputFrame := by
  obtain ⟨st, rm, run, rfl, m0, m1, m2, m3, m4, hfind⟩ := disconnectAt_remote s s' now handle addr lastFrame ep hpt hep h
  exact ⟨m1, m2, m3, rfl, rfl, m0, m4, rfl, rfl, rfl, rfl, hfind, rfl, rfl⟩

end Ggrs.P2P

namespace Ggrs
open InputQueue

theorem Marks.trans {a b c : List ConnStatus} (h1 : Marks a b) (h2 : Marks b c) : Marks a c :=
  ⟨h2.len.trans h1.len, fun p => (h2.last p).trans (h1.last p), fun p hd => h2.mono p (h1.mono p hd)⟩

theorem dropFrame_cases (cur lf df df' : Frame) (hlf : -1 ≤ lf) (hdf : df = NULL_FRAME ∨ 0 ≤ df)
    (h : df' = if cur > lf + 1 then (if df == NULL_FRAME then lf + 1 else min df (lf + 1)) else df) :
    (cur ≤ lf + 1 ∧ df' = df) ∨
    (lf + 1 < cur ∧ df' ≠ NULL_FRAME ∧ 0 ≤ df' ∧ df' ≤ lf + 1 ∧ (df ≠ NULL_FRAME → df' ≤ df) ∧
      (df' = lf + 1 ∨ df' = df ∧ df ≠ NULL_FRAME)) := by
  have hnull : NULL_FRAME = (-1 : Int) := rfl
  rw [h]
  by_cases hgt : cur > lf + 1
  · rw [if_pos hgt]
    right
    by_cases hd : df = NULL_FRAME
    · rw [hd, if_pos (beq_self_eq_true _)]
      exact ⟨hgt, by omega, by omega, Int.le_refl _, fun hn => absurd rfl hn, Or.inl rfl⟩
    · have hb : (df == NULL_FRAME) = false := by simpa using hd
      have h0 : 0 ≤ df := hdf.resolve_left hd
      rw [hb, if_neg Bool.false_ne_true]
      rcases Int.le_total df (lf + 1) with hx | hx
      · rw [Int.min_eq_left hx]
        exact ⟨hgt, by omega, h0, hx, fun _ => Int.le_refl _, Or.inr ⟨rfl, hd⟩⟩
      · rw [Int.min_eq_right hx]
        exact ⟨hgt, by omega, by omega, Int.le_refl _, fun _ => hx, Or.inl rfl⟩
  · rw [if_neg hgt]
    exact Or.inl ⟨by omega, rfl⟩

/-- `disconnect_player_at_frame` for a remote player with any frame (the player's own last frame, or
a cut-off adopted from the other peers' reports): the invariant survives if that frame is not beyond
the last frame of a still connected player of the endpoint (`hlow`) and not before the last frame of
a given-up player (`hgone`) — the re-simulation then never reaches into an emptied queue. -/
theorem drop_specG (s s' : P2P) (gh : DGhost) (t0 : TLState) (reqs : List Request) (st0 : List ConnStatus)
    (now handle addr : Nat) (lastFrame : Frame) (ep : Endpoint)
    (h : SessInvD s gh t0 reqs st0)
    (hpt : s.playerType handle = some (.remote addr)) (hep : P2P.findEp s.remotes addr = some ep)
    (hrem : ∀ g, g ∈ ep.handles → g ∉ s.localPlayerHandles)
    (hlf0 : -1 ≤ lastFrame)
    (hlow : ∀ g, g ∈ ep.handles → g < s.sync.queues.length → (rget s.localConnectStatus g).disconnected = false →
      lastFrame ≤ (rget s.localConnectStatus g).lastFrame)
    (hgone : ∀ g, g < s.sync.queues.length → gh.gone g → (rget s.localConnectStatus g).lastFrame ≤ lastFrame)
    (hdrop : s.disconnectPlayerAtFrame now handle lastFrame = .ok s') :
    SessInvD s' gh t0 reqs st0 ∧ s'.sync = s.sync ∧ s'.handles = s.handles ∧ s'.pred = s.pred ∧
      (∀ g, (rget s.localConnectStatus g).disconnected = true → (rget s'.localConnectStatus g).disconnected = true) ∧
      (∀ g, g ∈ ep.handles → g < s.sync.queues.length → (rget s'.localConnectStatus g).disconnected = true) ∧
      (∀ g, (rget s'.localConnectStatus g).lastFrame = (rget s.localConnectStatus g).lastFrame) ∧
      (s.sync.currentFrame ≤ lastFrame + 1 → s'.disconnectFrame = s.disconnectFrame) ∧
      (∀ g, g ∉ ep.handles → rget s'.localConnectStatus g = rget s.localConnectStatus g) ∧
      s'.outgoingLocalInputs = s.outgoingLocalInputs ∧ s'.lastSentOutgoingInputFrame = s.lastSentOutgoingInputFrame := by
  obtain ⟨st, rm, run, rfl, flen, f1, f2, f3, fmono, _⟩ := P2P.disconnectAt_remote s s' now handle addr lastFrame ep hpt hep hdrop
  have hm' : Marks s.localConnectStatus st := ⟨flen, f2, fmono⟩
  generalize hdfe : (if s.sync.currentFrame > lastFrame + 1 then _ else s.disconnectFrame) = df'
  have hdf' := dropFrame_cases s.sync.currentFrame lastFrame s.disconnectFrame df' hlf0 h.dfok hdfe.symm
  refine ⟨⟨h.tinv, h.marks.trans hm', fun p hp hc => h.asked p hp (hm'.alive hc), ?_,
      fun p hp hng => (f2 p).symm ▸ h.status p hp hng, fun p hp hnl => (f2 p).symm ▸ h.remote p hp hnl,
      fun p hpl => (f3 p fun hin => hrem p hin hpl).symm ▸ h.localAlive p hpl, ?_, ?_, h.deadClean,
      fun hsp p hp hg => (f2 p).symm ▸ h.saved hsp p hp hg⟩,
    rfl, rfl, rfl, fmono, fun g hin hg => f1 g hin (h.nst ▸ hg), f2,
    (fun hle => (hdf'.resolve_right fun hx => absurd hle (Int.not_le.mpr hx.1)).2), f3, rfl, rfl⟩
  · intro p hp h0 h1
    show s.sync.currentFrame ≤ (rget st0 p).lastFrame + 1 ∨ (df' ≠ NULL_FRAME ∧ df' ≤ (rget st0 p).lastFrame + 1)
    by_cases hd : (rget s.localConnectStatus p).disconnected = true
    · rcases h.pend p hp h0 hd with hx | ⟨hx1, hx2⟩
      · exact Or.inl hx
      · right
        rcases hdf' with ⟨_, he⟩ | ⟨_, hne, _, _, hle, _⟩
        · rw [he]; exact ⟨hx1, hx2⟩
        · exact ⟨hne, Int.le_trans (hle hx1) hx2⟩
    · have hc : (rget s.localConnectStatus p).disconnected = false := by simpa using hd
      have hin : p ∈ ep.handles := Decidable.not_not.mp fun hin => by
        have h1' : (rget st p).disconnected = true := h1
        rw [f3 p hin, hc] at h1'; cases h1'
      have hL := hlow p hin hp hc
      rw [← h.marks.last p]
      rcases hdf' with ⟨hle, _⟩ | ⟨_, hne, _, hle, _⟩
      · exact Or.inl (Int.le_trans hle (Int.add_le_add_right hL 1))
      · exact Or.inr ⟨hne, Int.le_trans hle (Int.add_le_add_right hL 1)⟩
  · intro g hg hgg
    obtain ⟨hs1, hs2, hs3⟩ := h.safe g hg hgg
    have hlt := hgone g hg hgg
    refine ⟨fun hne => ?_, fun q hq hne => (f2 g).symm ▸ hs2 q hq hne,
      fun q hq hc => (f2 g).symm ▸ (f2 q).symm ▸ hs3 q hq hc⟩
    show (rget st g).lastFrame < df'
    rw [f2]
    rcases hdf' with ⟨_, he⟩ | ⟨_, _, _, _, _, he | ⟨he, hne'⟩⟩
    · rw [he] at hne ⊢; exact hs1 hne
    · rw [he]; exact Int.lt_add_one_of_le hlt
    · rw [he]; exact hs1 hne'
  · rcases hdf' with ⟨_, he⟩ | ⟨_, _, h0, _⟩
    · rw [he]; exact h.dfok
    · exact Or.inr h0

/-- A locally detected drop (`disconnect_player`, or the Disconnected event of an endpoint):
`disconnect_player_at_frame` with the player's own last frame. The players behind the address are
marked; the invariant survives with their disconnects pending. Environment assumption `hsame`: the
players of one endpoint have received the same frames (their inputs travel in the same packets). -/
theorem drop_specD (s s' : P2P) (gh : DGhost) (t0 : TLState) (reqs : List Request) (st0 : List ConnStatus)
    (now handle addr : Nat) (lastFrame : Frame) (ep : Endpoint)
    (h : SessInvD s gh t0 reqs st0)
    (hpt : s.playerType handle = some (.remote addr)) (hep : P2P.findEp s.remotes addr = some ep)
    (hrem : ∀ g, g ∈ ep.handles → g ∉ s.localPlayerHandles)
    (hown : handle < s.sync.queues.length ∧ (rget st0 handle).disconnected = false ∧
      lastFrame = (rget s.localConnectStatus handle).lastFrame)
    (hlf0 : -1 ≤ lastFrame)
    (hsame : ∀ g, g ∈ ep.handles → g < s.sync.queues.length → (rget s.localConnectStatus g).disconnected = false →
      (rget s.localConnectStatus g).lastFrame = lastFrame)
    (hdrop : s.disconnectPlayerAtFrame now handle lastFrame = .ok s') :
    SessInvD s' gh t0 reqs st0 ∧ s'.sync = s.sync ∧ s'.handles = s.handles ∧ s'.pred = s.pred ∧
      (∀ g, (rget s.localConnectStatus g).disconnected = true → (rget s'.localConnectStatus g).disconnected = true) ∧
      (∀ g, g ∈ ep.handles → g < s.sync.queues.length → (rget s'.localConnectStatus g).disconnected = true) ∧
      (∀ g, (rget s'.localConnectStatus g).lastFrame = (rget s.localConnectStatus g).lastFrame) ∧
      (s.sync.currentFrame ≤ lastFrame + 1 → s'.disconnectFrame = s.disconnectFrame) ∧
      (∀ g, g ∉ ep.handles → rget s'.localConnectStatus g = rget s.localConnectStatus g) ∧
      s'.outgoingLocalInputs = s.outgoingLocalInputs ∧ s'.lastSentOutgoingInputFrame = s.lastSentOutgoingInputFrame := by
  refine drop_specG s s' gh t0 reqs st0 now handle addr lastFrame ep h hpt hep hrem hlf0 ?_ ?_ hdrop
  · intro g hin hg hc
    rw [hsame g hin hg hc]; exact Int.le_refl _
  · intro g hg hgg
    have := (h.safe g hg hgg).2.2 handle hown.1 hown.2.1
    rw [← hown.2.2] at this
    exact Int.le_of_lt this

end Ggrs
