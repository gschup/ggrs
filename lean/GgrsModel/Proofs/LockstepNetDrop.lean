/-
The network side of a lockstep session with dropped players, and run-time delay changes in it: what
it hands to its remote endpoints (queue contents, frame by frame) and to its spectators (rows with
the frameless blank input for players marked as of an earlier frame).
-/
import GgrsModel.Proofs.LockstepDrop
import GgrsModel.Proofs.DelayDrop
import GgrsModel.Proofs.LockstepNet

namespace Ggrs
open InputQueue

theorem rowMapD_specs (gh gh' : DGhost) (st : List ConnStatus) (N : Nat) (h : gh'.specs = gh.specs) :
    rowMapD gh' st N = rowMapD gh st N := by
  funext f; unfold rowMapD; rw [h]

theorem OffersD_specs (gh gh' : DGhost) (st : List ConnStatus) (N now : Nat) (h : gh'.specs = gh.specs) (a b : P2P)
    (ho : OffersD gh st N now a b) : OffersD gh' st N now a b := by
  induction ho with
  | done s => exact OffersD.done s
  | step s s1 s' f hf hoff _ ih => exact OffersD.step s s1 s' f hf (by rw [rowMapD_specs gh gh' st N h]; exact hoff) ih

/-- One lockstep call with dropped players: the local inputs go out as queue contents, the spectators
are offered the next frames up to `min(confirmed, consumed)` as rows `rowMapD`. -/
theorem lockstepTick_netD (s s' : P2P) (gh : DGhost) (t : TLState) (now : Nat) (reqs' : List Request)
    (h : LkInvD s gh t) (hg : GlueInv s gh.g) (hn : 0 ≤ s.nextSpectatorFrame)
    (hadv : s.advanceLockstepFrame now [] = .ok (s', reqs')) :
    ∃ (gh1 gh' : DGhost) (sA sB sC sD : P2P), LkInvD s' gh' (execReqs t reqs') ∧ GlueInv s' gh'.g ∧
      0 ≤ s'.nextSpectatorFrame ∧ gh'.specs = gh1.specs ∧
      (∀ p, PrefixOf (gh.specs p).vals (gh1.specs p).vals) ∧
      sA.lastSentOutgoingInputFrame = s.lastSentOutgoingInputFrame ∧ Sends gh1.g now sA sB ∧
      s'.lastSentOutgoingInputFrame = sB.lastSentOutgoingInputFrame ∧
      sC.nextSpectatorFrame = s.nextSpectatorFrame ∧
      OffersD gh1 sC.localConnectStatus s.sync.queues.length now sC sD ∧
      s'.nextSpectatorFrame = sD.nextSpectatorFrame := by
  obtain ⟨s1, s2, s3, c1, c2, sy4, hreg, hc1, hstep, hc2, hspec, hset, hs'⟩ := P2P.advanceLockstepFrame_ok hadv
  obtain ⟨gh1, sA, hinv1, hg1, hk1, hlsA, hsends, hpre⟩ := registerLocalInputs_glueD s s1 gh t [] now h.sess hg hreg
  have hn1 : s1.nextSpectatorFrame = s.nextSpectatorFrame := P2P.registerLocalInputs_nsf _ _ _ hreg
  have hl1 : LkInvD s1 gh1 t := h.keep hinv1 (registerLocalInputs_idle s s1 now h.idle hreg) hk1.df hk1.cur hk1.nq
    hk1.grows hk1.flags (fun p hd => (hk1.deadQ p hd).2)
  obtain ⟨hn2, ho2, hls2⟩ := lockstepAdvance_net hstep
  obtain ⟨gh2, hl2, hsp2, _, hq2, hst2, hh2⟩ := lockstepAdvance_lkD s1 s2 gh1 t c1 reqs' hl1 hc1 hstep
  have hg2 : GlueInv s2 gh2.g := GlueInv_transfer s1 s2 gh1.g gh2.g hg1 ho2 hh2 hst2 (by rw [hq2]) hsp2
  have hn2' : 0 ≤ s2.nextSpectatorFrame := by rw [hn2, hn1]; exact hn
  have hoff := sendConfirmed_rowsD s2 s3 gh2 _ [] now _ hl2.sess hn2' (bookkeeping_le hc2 hl2.sess.tinv.sync.nq _) hspec
  obtain ⟨ho3, hls3⟩ := P2P.sendConfirmed_out _ _ _ _ hspec
  have hc3 := P2P.sendConfirmed_sameCore _ _ _ _ hspec
  have hg3 : GlueInv s3 gh2.g :=
    GlueInv_transfer s2 s3 gh2.g gh2.g hg2 ho3 hc3.handles hc3.statuses (by rw [hc3.sync]) rfl
  -- the bookkeeping changes neither the streams nor what the glue invariant reads
  obtain ⟨gh4, hl4, hsp4, _, hql4, _⟩ := lockstepTail_specD s2 s3 sy4 gh2 (execReqs t reqs') now c2 hl2 hc2 hspec hset
  have hg4 : GlueInv ({ s3 with sync := sy4 } : P2P) gh4.g :=
    GlueInv_transfer s3 _ gh2.g gh4.g hg3 rfl rfl rfl (by show sy4.queues.length = _; rw [hql4, hc3.sync]) hsp4
  subst hs'
  refine ⟨gh1, gh4, sA, s1, s2, s3, hl4, hg4, Int.le_trans hn2' (P2P.sendConfirmed_nsf hspec).1, hsp4.trans hsp2, hpre, hlsA, hsends,
    hls3.trans hls2, hn2.trans hn1, ?_, rfl⟩
  rw [hq2, hk1.nq] at hoff
  exact OffersD_specs gh2 gh1 _ _ now hsp2.symm s2 s3 hoff

def LkNetInvD (x : P2P × TLState) : Prop :=
  (∃ gh, LkInvD x.1 gh x.2 ∧ GlueInv x.1 gh.g) ∧ 0 ≤ x.1.nextSpectatorFrame

/-- The lockstep world with drops and run-time delay changes. -/
inductive LkYStep : (P2P × TLState) → (P2P × TLState) → Prop
  | base (x y : P2P × TLState) : LkXStep x y → LkYStep x y
  | setDelay (s s' : P2P) (t : TLState) (now handle delay : Nat) (r : Except GgrsError Unit) :
      handle ∈ s.localPlayerHandles → handle < s.sync.queues.length →
      s.setInputDelay now handle delay = .ok (s', r) → LkYStep (s, t) (s', t)

inductive LkYStar : (P2P × TLState) → (P2P × TLState) → Prop
  | refl (x : P2P × TLState) : LkYStar x x
  | step (x y z : P2P × TLState) : LkYStar x y → LkYStep y z → LkYStar x z

theorem LkNetInvD_step (x y : P2P × TLState) (h : LkNetInvD x) (hs : LkYStep x y) : LkNetInvD y := by
  obtain ⟨⟨gh, hl, hg⟩, hn⟩ := h
  cases hs with
  | base _ _ hb =>
    rcases hb.call_or_quiet gh hl with ⟨now, reqs', hadv, ht⟩ | ⟨gh', hl', ho, hh, hst, hq, hsp, hnsf⟩
    · obtain ⟨_, gh', _, _, _, _, hl', hg', hn', _⟩ := lockstepTick_netD x.1 y.1 gh x.2 now reqs' hl hg hn hadv
      exact ⟨⟨gh', ht ▸ hl', hg'⟩, hn'⟩
    · exact ⟨⟨gh', hl', GlueInv_transferL x.1 y.1 gh.g gh'.g hg ho hh hst hq hsp⟩, by rw [hnsf]; exact hn⟩
  | setDelay s s' t now handle delay r hloc hp hset =>
    obtain ⟨gh', st0', h', hg', hcur, _, _, _, hnsf, hdf, hnq, hgrow, hflags, hdead⟩ :=
      setInputDelay_specD s s' gh t [] _ now handle delay r hl.sess hg hloc hp hset
    exact ⟨⟨gh', hl.keep h' (setInputDelay_idle s s' now handle delay r hl.idle hp hset) hdf hcur hnq hgrow hflags hdead,
      hg'⟩, by show 0 ≤ s'.nextSpectatorFrame; rw [hnsf]; exact hn⟩

theorem LkNetInvD_run (x y : P2P × TLState) (h : LkNetInvD x) (hr : LkYStar x y) : LkNetInvD y := by
  induction hr with
  | refl => exact h
  | step y z _ hs ih => exact LkNetInvD_step y z ih hs

end Ggrs
