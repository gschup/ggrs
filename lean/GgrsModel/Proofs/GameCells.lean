/-
The game next to a session whose saves reach the session's cells: executing a request list moves
the game and writes the game's checksum of every saved frame into the cell of that frame.
-/
import GgrsModel.Proofs.Replay

namespace Ggrs

def execSW {G : Type} (step : G → List (Input × InputStatus) → G) (csf : G → Option Nat)
    (w : List Cell × GS G) : Request → List Cell × GS G
  | .save f => (rset w.1 (frameIdx f w.1.length) ⟨f, csf w.2.g⟩, execG step w.1.length w.2 (.save f))
  | .load f => (w.1, execG step w.1.length w.2 (.load f))
  | .advance ins => (w.1, execG step w.1.length w.2 (.advance ins))

def execSWs {G : Type} (step : G → List (Input × InputStatus) → G) (csf : G → Option Nat)
    (w : List Cell × GS G) (rs : List Request) : List Cell × GS G := rs.foldl (execSW step csf) w

theorem execSWs_append {G : Type} (step : G → List (Input × InputStatus) → G) (csf : G → Option Nat)
    (w : List Cell × GS G) (a b : List Request) :
    execSWs step csf w (a ++ b) = execSWs step csf (execSWs step csf w a) b := by
  simp [execSWs, List.foldl_append]

theorem execSWs_cons {G : Type} (step : G → List (Input × InputStatus) → G) (csf : G → Option Nat)
    (w : List Cell × GS G) (r : Request) (rs : List Request) :
    execSWs step csf w (r :: rs) = execSWs step csf (execSW step csf w r) rs := rfl

/-- The checksums the deterministic game hands over with its saves. -/
def gameSaves {G : Type} (step : G → List (Input × InputStatus) → G) (csf : G → Option Nat) (n : Nat) :
    GS G → List Request → List (Frame × Option Nat)
  | _, [] => []
  | x, .save f :: rs => (f, csf x.g) :: gameSaves step csf n (execG step n x (.save f)) rs
  | x, .load f :: rs => gameSaves step csf n (execG step n x (.load f)) rs
  | x, .advance ins :: rs => gameSaves step csf n (execG step n x (.advance ins)) rs

/-- `execSWs` is `userExecute` fed the game's own checksums (`gameSaves`), next to `execGs`. -/
theorem execSWs_userExecute {G : Type} (step : G → List (Input × InputStatus) → G) (csf : G → Option Nat) :
    ∀ (reqs : List Request) (sy : SyncLayer) (x : GS G),
    (execSWs step csf (sy.cells, x) reqs).1 =
      ((gameSaves step csf sy.cells.length x reqs).foldl (fun sy (p : Frame × Option Nat) => sy.userSave p.1 p.2) sy).cells ∧
    (execSWs step csf (sy.cells, x) reqs).2 = execGs step sy.cells.length x reqs := by
  intro reqs
  induction reqs with
  | nil => intro sy x; exact ⟨rfl, rfl⟩
  | cons r rs ih =>
    intro sy x
    cases r with
    | save f =>
      have hl : (sy.userSave f (csf x.g)).cells.length = sy.cells.length := by simp [SyncLayer.userSave, rset_length]
      have := ih (sy.userSave f (csf x.g)) (execG step sy.cells.length x (.save f))
      rw [hl] at this
      exact this
    | load f => exact ih sy (execG step sy.cells.length x (.load f))
    | advance ins => exact ih sy (execG step sy.cells.length x (.advance ins))

end Ggrs
