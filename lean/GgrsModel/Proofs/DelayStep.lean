/-
L-delay: `set_input_delay` at run time as a step of the session world. The queue-level refinement
(`QI_setDelay`: the ring implements `QSpec.setDelay`, the reported fills are the stored entries)
is lifted to the session: the session invariant, the glue invariant (the fills reach the outgoing
queue as queue content) and the spectator cursor survive the call, so every all-schedules theorem
about rollback-mode sessions also holds for runs with delay changes in between.
-/
import GgrsModel.Proofs.Glue

namespace Ggrs
open InputQueue

theorem rset_lastFrame_twice (l : List ConnStatus) (h : Nat) (x y : Frame) :
    rset (rset l h { rget l h with lastFrame := x }) h
        { rget (rset l h { rget l h with lastFrame := x }) h with lastFrame := y }
      = rset l h { rget l h with lastFrame := y } := by
  by_cases hh : h < l.length
  · rw [rget_rset_eq _ _ _ hh, rset_rset]
  · simp [rset, List.set_eq_of_length_le (by omega : l.length ≤ h)]

/-- The fold over the fills of `set_input_delay`: the player's status moves to the last fill, every fill reaches
the outgoing queue. -/
theorem fillsFold_spec (gh : Ghost) (h : Nat) (v : Input) : ∀ (n : Nat) (start : Int) (s s' : P2P),
    0 ≤ start → OutOk s gh → h ∈ s.localPlayerHandles →
    (∀ i : Nat, i < n → (start + i).toNat < (gh.specs h).vals.length ∧ (gh.specs h).vals.getD (start + i).toNat 0 = v) →
    (QSpec.fillList start v n).foldlM (fun s (f : PlayerInput) =>
      if f.frame != NULL_FRAME then
        (s.setStatus h fun c => { c with lastFrame := f.frame }).queueOutgoingLocalInput h f
      else pure s) s = .ok s' →
    OutOk s' gh ∧ s'.sync = s.sync ∧ s'.pred = s.pred ∧ s'.handles = s.handles ∧ s'.sparse = s.sparse ∧
    s'.maxPrediction = s.maxPrediction ∧ s'.nextSpectatorFrame = s.nextSpectatorFrame ∧
    s'.lastSentOutgoingInputFrame = s.lastSentOutgoingInputFrame ∧
    s'.localConnectStatus = (if n = 0 then s.localConnectStatus else
      rset s.localConnectStatus h { rget s.localConnectStatus h with lastFrame := start + n - 1 }) := by
  intro n
  induction n with
  | zero =>
    intro start s s' _ ho _ _ hf
    cases pure_ok hf
    exact ⟨ho, rfl, rfl, rfl, rfl, rfl, rfl, rfl, rfl⟩
  | succ k ih =>
    intro start s s' h0 ho hloc hv hf
    simp only [QSpec.fillList, List.foldlM_cons] at hf
    obtain ⟨s1, h1, hf⟩ := bind_ok hf
    have hne : ((start : Frame) != NULL_FRAME) = true := by
      simp only [bne_iff_ne, ne_eq, NULL_FRAME]; omega
    simp only [hne, if_true] at h1
    obtain ⟨hv0a, hv0b⟩ := hv 0 (by omega)
    simp only [Int.natCast_zero, Int.add_zero] at hv0a hv0b
    have hloc1 : h ∈ (s.setStatus h fun c => { c with lastFrame := start }).localPlayerHandles := hloc
    obtain ⟨ho1, hh1, hl1⟩ := queueOutgoing_out (s.setStatus h fun c => { c with lastFrame := start }) s1 gh h ⟨start, v⟩
      (OutOk_congr s _ gh ho rfl rfl) hloc1 h0 hv0a hv0b.symm h1
    have hc1 := P2P.queueOutgoing_sameCore _ _ _ _ h1
    have hn1 := P2P.queueOutgoing_nsf _ _ _ _ h1
    obtain ⟨ho', a1, a2, a3, a4, a5, a6, a7, a8⟩ := ih (start + 1) s1 s' (by omega) ho1
      (by rw [P2P.localPlayerHandles_congr hh1]; exact hloc)
      (fun i hi => by
        have := hv (i + 1) (by omega)
        have e : start + 1 + (i : Int) = start + ((i + 1 : Nat) : Int) := by push_cast; omega
        rw [e]; exact this) hf
    refine ⟨ho', a1.trans hc1.sync, a2.trans hc1.pred, a3.trans hh1, a4.trans hc1.sparse, a5.trans hc1.maxPrediction,
      a6.trans hn1, a7.trans hl1, ?_⟩
    rw [a8, hc1.statuses, if_neg (Nat.succ_ne_zero k)]
    by_cases hk : k = 0
    · rw [if_pos hk, hk, show start + ((0 + 1 : Nat) : Int) - 1 = start by omega]
      rfl
    · rw [if_neg hk, show start + ((k + 1 : Nat) : Int) - 1 = start + 1 + (k : Int) - 1 by omega]
      exact rset_lastFrame_twice s.localConnectStatus h start _

theorem fillsFold_df (h : Nat) : ∀ (l : List PlayerInput) (s s' : P2P),
    l.foldlM (fun s (f : PlayerInput) =>
      if f.frame != NULL_FRAME then
        (s.setStatus h fun c => { c with lastFrame := f.frame }).queueOutgoingLocalInput h f
      else pure s) s = .ok s' →
    s'.disconnectFrame = s.disconnectFrame ∧ s'.pendingLocalInputs = s.pendingLocalInputs ∧
      s'.numPlayers = s.numPlayers ∧ s'.sync = s.sync := by
  intro l
  induction l with
  | nil => intro s s' hf; cases pure_ok hf; exact ⟨rfl, rfl, rfl, rfl⟩
  | cons x xs ih =>
    intro s s' hf
    simp only [List.foldlM_cons] at hf
    obtain ⟨s1, h1, hf⟩ := bind_ok hf
    obtain ⟨a, b, c, d⟩ := ih s1 s' hf
    split at h1
    · have hc := P2P.queueOutgoing_sameCore _ _ _ _ h1
      exact ⟨a.trans hc.disconnectFrame, b.trans hc.pending, c.trans hc.numPlayers, d.trans hc.sync⟩
    · cases pure_ok h1; exact ⟨a, b, c, d⟩

theorem setDelay_facts (s : QSpec) (d : Nat) :
    ∃ k : Nat, (s.setDelay d).1.vals = s.vals ++ List.replicate k s.lastVal ∧
      (s.setDelay d).2 = QSpec.fillList s.vals.length s.lastVal k ∧ (s.vals = [] → k = 0) := by
  by_cases he : s.vals.length = 0
  · rw [QSpec.setDelay_empty d he]
    exact ⟨0, (List.append_nil _).symm, rfl, fun _ => rfl⟩
  · rw [QSpec.setDelay_started d he]
    exact ⟨_, rfl, rfl, fun hn => absurd (congrArg List.length hn) he⟩

theorem getD_append_replicate (vals : List Input) (k : Nat) (v : Input) (i : Nat) (hi : i < k) :
    (vals ++ List.replicate k v).getD (vals.length + i) 0 = v := by
  rw [List.getD_eq_getElem?_getD, List.getElem?_append_right (by omega)]
  simp [hi]

/-- The ghost after a delay change of player `hd`. -/
def ghDelay (gh : Ghost) (hd d : Nat) : Ghost :=
  { gh with specs := fun i => if i = hd then ((gh.specs hd).setDelay d).1 else gh.specs i }

theorem ghDelay_self (gh : Ghost) (hd d : Nat) : (ghDelay gh hd d).specs hd = ((gh.specs hd).setDelay d).1 := if_pos rfl

theorem ghDelay_ne (gh : Ghost) (hd d p : Nat) (hp : p ≠ hd) : (ghDelay gh hd d).specs p = gh.specs p := if_neg hp

theorem ghDelay_prefix (gh : Ghost) (hd d p : Nat) : PrefixOf (gh.specs p).vals ((ghDelay gh hd d).specs p).vals := by
  by_cases hp : p = hd
  · obtain ⟨_, hv, _⟩ := setDelay_facts (gh.specs hd) d
    rw [hp, ghDelay_self, hv]; exact PrefixOf_append _ _
  · rw [ghDelay_ne gh hd d p hp]; exact PrefixOf.refl _

theorem ghDelay_cases {gh gh' : Ghost} {hd d : Nat} (h : gh' = gh ∨ gh' = ghDelay gh hd d) (p : Nat) :
    (p ≠ hd → gh'.specs p = gh.specs p) ∧ PrefixOf (gh.specs p).vals (gh'.specs p).vals := by
  rcases h with rfl | rfl
  · exact ⟨fun _ => rfl, PrefixOf.refl _⟩
  · exact ⟨ghDelay_ne gh hd d p, ghDelay_prefix gh hd d p⟩

theorem P2P.setInputDelay_ok {s s' : P2P} {now handle delay : Nat} {r : Except GgrsError Unit}
    (h : s.setInputDelay now handle delay = .ok (s', r)) :
    s' = s ∨ ∃ q' fills s2, (rget s.sync.queues handle).setFrameDelay delay = .ok (q', fills) ∧
      fills.foldlM (fun s (f : PlayerInput) =>
        if f.frame != NULL_FRAME then
          (s.setStatus handle fun c => { c with lastFrame := f.frame }).queueOutgoingLocalInput handle f
        else pure s) ({ s with sync := { s.sync with queues := rset s.sync.queues handle q' } } : P2P) = .ok s2 ∧
      s2.sendReadyOutgoingInputsToRemotes now = .ok s' := by
  unfold P2P.setInputDelay at h
  split at h
  · obtain ⟨⟨sy, fills⟩, hsd, h⟩ := bind_ok h
    obtain ⟨s2, hfold, h⟩ := bind_ok h
    obtain ⟨s3, hsend, h⟩ := bind_ok h
    obtain ⟨rfl, _⟩ := pure_ok_pair h
    obtain ⟨_, q', hq, rfl⟩ := SyncLayer.setFrameDelay_ok hsd
    exact Or.inr ⟨q', fills, s2, hq, hfold, hsend⟩
  · exact Or.inl (pure_ok_pair h).1.symm

/-- `set_input_delay` for a local player, the outgoing side. Of the player's queue it needs one fact only: the
fills `set_frame_delay` reports are those of the stream. -/
theorem setInputDelay_out (s s' : P2P) (gh : Ghost) (now handle delay : Nat) (r : Except GgrsError Unit)
    (hg : GlueInv s gh) (hloc : handle ∈ s.localPlayerHandles) (hp : handle < s.sync.queues.length)
    (hpst : handle < s.localConnectStatus.length)
    (hfl : ∀ q' fl, (rget s.sync.queues handle).setFrameDelay delay = .ok (q', fl) → fl = ((gh.specs handle).setDelay delay).2)
    (hset : s.setInputDelay now handle delay = .ok (s', r)) :
    s' = s ∨ ∃ q', (rget s.sync.queues handle).setFrameDelay delay = .ok (q', ((gh.specs handle).setDelay delay).2) ∧
      P2P.SameCore ({ s with sync := { s.sync with queues := rset s.sync.queues handle q' },
                             localConnectStatus := rset s.localConnectStatus handle
                               { rget s.localConnectStatus handle with
                                 lastFrame := (((gh.specs handle).setDelay delay).1.vals.length : Int) - 1 } } : P2P) s' ∧
      s'.nextSpectatorFrame = s.nextSpectatorFrame ∧ GlueInv s' (ghDelay gh handle delay) := by
  rcases P2P.setInputDelay_ok hset with hs | ⟨q', fl, s2, hq, hfold, hsend⟩
  · exact Or.inl hs
  cases hfl q' fl hq
  obtain ⟨k, hvals, hfl2, _⟩ := setDelay_facts (gh.specs handle) delay
  rw [hfl2] at hfold
  have htop := hg.top handle hloc hp
  have hlen' : (((gh.specs handle).setDelay delay).1.vals.length : Int) = (gh.specs handle).vals.length + k := by
    rw [hvals]; simp
  have ho1 : OutOk ({ s with sync := { s.sync with queues := rset s.sync.queues handle q' } } : P2P) (ghDelay gh handle delay) :=
    OutOk_congr s _ _ (OutOk_grow s gh _ hg.out (ghDelay_prefix gh handle delay)) rfl rfl
  obtain ⟨ho2, f1, f2, f3, f4, f5, f6, _, f8⟩ := fillsFold_spec (ghDelay gh handle delay) handle (gh.specs handle).lastVal k
    ((gh.specs handle).vals.length : Int) _ s2 (Int.natCast_nonneg _) ho1 hloc
    (fun i hi => by
      rw [ghDelay_self, hvals]
      have e : (((gh.specs handle).vals.length : Int) + (i : Int)).toNat = (gh.specs handle).vals.length + i := by omega
      rw [e]
      exact ⟨by simp; omega, getD_append_replicate _ _ _ _ hi⟩) hfold
  obtain ⟨fdf, fpend, fnp, _⟩ := fillsFold_df handle _ _ s2 hfold
  have hst2 : s2.localConnectStatus = rset s.localConnectStatus handle
      { rget s.localConnectStatus handle with lastFrame := (((gh.specs handle).setDelay delay).1.vals.length : Int) - 1 } := by
    rw [f8, hlen']
    show (if k = 0 then s.localConnectStatus else rset s.localConnectStatus handle _) = _
    by_cases hk : k = 0
    · -- no fill: the status already names the end of the stream
      have e : ((gh.specs handle).vals.length : Int) + (k : Nat) - 1 = (rget s.localConnectStatus handle).lastFrame := by
        rw [htop, hk]; simp
      rw [if_pos hk, e]
      exact (rset_rget_self _ _ hpst).symm
    · rw [if_neg hk]
  have hg2 : GlueInv s2 (ghDelay gh handle delay) :=
    GlueInv_touch s s2 gh _ handle hg ho2 f3 (by rw [f1]; exact rset_length _ _ _)
      (fun p hpe => by rw [hst2, rget_rset_ne _ _ _ _ (fun e => hpe e.symm)]) (ghDelay_ne gh handle delay)
      (by rw [hst2, rget_rset_eq _ _ _ hpst, ghDelay_self])
  have hc3 := P2P.sendReady_sameCore _ _ _ hsend
  exact Or.inr ⟨q', hq, P2P.SameCore.trans ⟨f1, f2, hst2, f4, f5, f3, fpend, fnp, fdf⟩ hc3,
    by rw [P2P.sendReady_nsf _ _ _ hsend, f6], (sendReady_glue s2 s' _ now hg2 hsend).2⟩

theorem setInputDelay_spec (s s' : P2P) (gh : Ghost) (t0 : TLState) (reqs : List Request) (now handle delay : Nat)
    (r : Except GgrsError Unit)
    (h : SessInv s gh t0 reqs) (hg : GlueInv s gh) (hloc : handle ∈ s.localPlayerHandles)
    (hp : handle < s.sync.queues.length) (hset : s.setInputDelay now handle delay = .ok (s', r)) :
    ∃ gh', SessInv s' gh' t0 reqs ∧ GlueInv s' gh' ∧ (gh' = gh ∨ gh' = ghDelay gh handle delay) ∧
      s'.sync.currentFrame = s.sync.currentFrame ∧ s'.sync.cells = s.sync.cells ∧ s'.sparse = s.sparse ∧
      s'.sync.lastSavedFrame = s.sync.lastSavedFrame ∧ s'.nextSpectatorFrame = s.nextSpectatorFrame ∧
      s'.handles = s.handles ∧ s'.pred = s.pred ∧ s'.maxPrediction = s.maxPrediction ∧
      s'.sync.queues.length = s.sync.queues.length := by
  have hpst : handle < s.localConnectStatus.length := by rw [h.tinv.sync.nq]; exact hp
  have hq0 := h.tinv.sync.all handle hp
  rcases setInputDelay_out s s' gh now handle delay r hg hloc hp hpst
      (fun q' fl hq => (QI_setDelay s.pred _ q' _ _ _ _ delay fl hq0 (h.asked handle hp) hq).2.2) hset with
    rfl | ⟨q', hq, hc, hnsf, hg'⟩
  · exact ⟨gh, h, hg, Or.inl rfl, rfl, rfl, rfl, rfl, rfl, rfl, rfl, rfl, rfl⟩
  obtain ⟨hqi, hask, _⟩ := QI_setDelay s.pred _ q' _ _ _ _ delay _ hq0 (h.asked handle hp) hq
  have hupd := SessInv_update s gh t0 reqs h handle hp q' _
    { rget s.localConnectStatus handle with lastFrame := (((gh.specs handle).setDelay delay).1.vals.length : Int) - 1 }
    hqi hask (h.tinv.sync.conn (rget s.localConnectStatus handle) (mem_of_rget _ _ hpst)) (by rw [lastAdded_of_QI hqi]; exact Int.le_refl _)
    (fun hc => absurd hloc hc)
  exact ⟨_, SessInv_congr _ s' _ t0 reqs hupd hc.pred hc.sync hc.statuses hc.handles, hg', Or.inr rfl,
    by rw [hc.sync], by rw [hc.sync], hc.sparse, by rw [hc.sync], hnsf, hc.handles, hc.pred, hc.maxPrediction,
    by rw [hc.sync]; exact rset_length _ _ _⟩

/-- Steps of a rollback-mode session including run-time delay changes of local players. -/
inductive DStep : (P2P × TLState) → (P2P × TLState) → Prop
  | base (x y : P2P × TLState) : SStep x y → DStep x y
  | setDelay (s s' : P2P) (t : TLState) (now handle delay : Nat) (r : Except GgrsError Unit) :
      handle ∈ s.localPlayerHandles → handle < s.sync.queues.length →
      s.setInputDelay now handle delay = .ok (s', r) → DStep (s, t) (s', t)

inductive DStar : (P2P × TLState) → (P2P × TLState) → Prop
  | refl (x : P2P × TLState) : DStar x x
  | step (x y z : P2P × TLState) : DStar x y → DStep y z → DStar x z

def HInv (x : P2P × TLState) : Prop :=
  (∃ gh, SessInv x.1 gh x.2 [] ∧ GlueInv x.1 gh) ∧ 0 ≤ x.1.nextSpectatorFrame

theorem moved_setDelay (s s' : P2P) (gh : Ghost) (t : TLState) (now handle delay : Nat) (r : Except GgrsError Unit)
    (h : SessInv s gh t []) (hg : GlueInv s gh) (hloc : handle ∈ s.localPlayerHandles)
    (hp : handle < s.sync.queues.length) (hset : s.setInputDelay now handle delay = .ok (s', r)) :
    ∃ gh', Moved s s' t gh gh' := by
  obtain ⟨gh', hinv', hg', hcase, _, _, _, _, _, hh, _, _, hq⟩ := setInputDelay_spec s s' gh t [] now handle delay r h hg hloc hp hset
  exact ⟨gh', hinv', hg', P2P.localPlayerHandles_congr hh, hq,
    fun p hn => (ghDelay_cases hcase p).1 (fun e => hn (e ▸ hloc)), fun p => (ghDelay_cases hcase p).2⟩

theorem HInv_step_grow (x y : P2P × TLState) (gh : Ghost) (hx : SessInv x.1 gh x.2 []) (hgx : GlueInv x.1 gh)
    (hs : DStep x y) :
    ∃ gh', SessInv y.1 gh' y.2 [] ∧ GlueInv y.1 gh' ∧ y.1.sync.queues.length = x.1.sync.queues.length ∧
      ∀ p, PrefixOf (gh.specs p).vals (gh'.specs p).vals := by
  cases hs with
  | base _ _ hss => exact GlueInv_step _ _ gh hx hgx hss
  | setDelay s s' t now handle delay r hloc hp hset =>
    obtain ⟨gh', m⟩ := moved_setDelay s s' gh t now handle delay r hx hgx hloc hp hset
    exact m.grown

theorem dstep_nsf_le (x y : P2P × TLState) (gh : Ghost) (hx : SessInv x.1 gh x.2 []) (hgx : GlueInv x.1 gh)
    (h0 : 0 ≤ x.1.nextSpectatorFrame) (hs : DStep x y) : x.1.nextSpectatorFrame ≤ y.1.nextSpectatorFrame := by
  cases hs with
  | base _ _ hss => exact sstep_nsf_le x y gh hx h0 hss
  | setDelay s s' t now handle delay r hloc hp hset =>
    obtain ⟨_, _, _, _, _, _, _, _, hnsf, _⟩ := setInputDelay_spec s s' gh t [] now handle delay r hx hgx hloc hp hset
    exact Int.le_of_eq hnsf.symm

theorem HInv_step (x y : P2P × TLState) (h : HInv x) (hs : DStep x y) : HInv y := by
  obtain ⟨⟨gh, hx, hgx⟩, hn⟩ := h
  obtain ⟨gh', h', hg', _⟩ := HInv_step_grow x y gh hx hgx hs
  exact ⟨⟨gh', h', hg'⟩, Int.le_trans hn (dstep_nsf_le x y gh hx hgx hn hs)⟩

theorem HInv_run (x y : P2P × TLState) (h : HInv x) (hr : DStar x y) : HInv y := by
  induction hr with
  | refl => exact h
  | step y z _ hs ih => exact HInv_step y z ih hs

/-- The same with the game: delay changes touch neither the game nor the cells. -/
inductive DWStep {G : Type} (step : G → List (Input × InputStatus) → G) : (P2P × GS G) → (P2P × GS G) → Prop
  | base (a b : P2P × GS G) : WStep step a b → DWStep step a b
  | setDelay (s s' : P2P) (x : GS G) (now handle delay : Nat) (r : Except GgrsError Unit) :
      handle ∈ s.localPlayerHandles → handle < s.sync.queues.length →
      s.setInputDelay now handle delay = .ok (s', r) → DWStep step (s, x) (s', x)

inductive DWStar {G : Type} (step : G → List (Input × InputStatus) → G) : (P2P × GS G) → (P2P × GS G) → Prop
  | refl (w) : DWStar step w w
  | step (a b c) : DWStar step a b → DWStep step b c → DWStar step a c

def DWInv {G : Type} (step : G → List (Input × InputStatus) → G) (g0 : G) (w : P2P × GS G) : Prop :=
  WInv step g0 w.1 w.2 ∧ ∃ gh, SessInv w.1 gh ⟨w.2.cur, w.2.R⟩ [] ∧ GlueInv w.1 gh

theorem pair_tick {G : Type} (step : G → List (Input × InputStatus) → G) (s s' : P2P) (x : GS G) (n : Nat)
    (now : Nat) (pre reqs' : List Request) (saves : List (Frame × Option Nat)) (gh : Ghost)
    (hsess : SessInv s gh ⟨x.cur, x.R⟩ pre) (hg : GlueInv s gh)
    (hadv : s.advanceRollbackFrame now pre = .ok (s', reqs')) :
    ∃ gh', SessInv (s'.userExecute saves) gh' ⟨(execGs step n x reqs').cur, (execGs step n x reqs').R⟩ [] ∧
      GlueInv (s'.userExecute saves) gh' := by
  obtain ⟨_, gh', _, _, hinv', hg', _⟩ := rollbackTick_glue s s' gh ⟨x.cur, x.R⟩ pre reqs' now hsess hg hadv
  obtain ⟨ecur, eR⟩ := execGs_cur_R step n x reqs'
  refine ⟨gh', ?_, GlueInv_userExecute s' gh' saves hg'⟩
  rw [ecur, eR]
  exact SessInv_userExecute s' gh' _ [] saves (SessInv_rebase s' gh' ⟨x.cur, x.R⟩ reqs' hinv')

theorem DWInv_step {G : Type} (step : G → List (Input × InputStatus) → G) (g0 : G) (a b : P2P × GS G)
    (h : DWInv step g0 a) (hs : DWStep step a b) : DWInv step g0 b := by
  obtain ⟨hw, gh, hsess, hg⟩ := h
  cases hs with
  | base _ _ hws =>
    refine ⟨WInv_step step g0 a b hw hws, ?_⟩
    cases hws with
    | remoteInput s s' x now inp player handles addr hnl h0 hev =>
      obtain ⟨gh', h', hg', _⟩ := GlueInv_step (s, ⟨x.cur, x.R⟩) (s', ⟨x.cur, x.R⟩) gh hsess hg
        (SStep.remoteInput s s' _ now inp player handles addr hnl h0 hev)
      exact ⟨gh', h', hg'⟩
    | tick s s' x now reqs' saves hadv hsaves =>
      exact pair_tick step s s' x s.sync.cells.length now [] reqs' saves gh hsess hg hadv
    | tick0 s s' x now sy r reqs' saves hf0 hsv hadv hsaves =>
      have hq : sy.queues = s.sync.queues := by obtain ⟨_, rfl, _⟩ := SyncLayer.saveCurrentState_ok hsv; rfl
      have hsess1 : SessInv ({ s with sync := sy } : P2P) gh ⟨x.cur, x.R⟩ [r] := SessInv_save s gh _ [] sy r hsess hsv
      have hg1 : GlueInv ({ s with sync := sy } : P2P) gh := GlueInv_transfer s _ gh gh hg rfl rfl rfl (by show sy.queues.length = _; rw [hq]) rfl
      exact pair_tick step _ s' x s.sync.cells.length now [r] reqs' saves gh hsess1 hg1 hadv
    | localInput s x handle input =>
      obtain ⟨gh', h', hg', _⟩ := GlueInv_step (s, ⟨x.cur, x.R⟩) _ gh hsess hg (SStep.localInput s _ handle input)
      exact ⟨gh', h', hg'⟩
  | setDelay s s' x now handle delay r hloc hp hset =>
    obtain ⟨gh', hinv', hg', _, hcur, hcells, hsp, hls, _, _, _, _⟩ :=
      setInputDelay_spec s s' gh ⟨x.cur, x.R⟩ [] now handle delay r hsess hg hloc hp hset
    refine ⟨⟨⟨gh', hinv'⟩, by show 0 < s'.sync.cells.length; rw [hcells]; exact hw.ncells, ?_⟩, gh', hinv', hg'⟩
    obtain ⟨c, hc, hgi, htags, hmode⟩ := hw.chk
    refine ⟨c, ?_, ?_, ?_, ?_⟩
    · show c.cur = s'.sync.currentFrame; rw [hcur]; exact hc
    · show GInv step g0 s'.sync.cells.length x c; rw [hcells]; exact hgi
    · show ∀ i, i < s'.sync.cells.length → _; rw [hcells]; exact htags
    · unfold ModeInv
      show (s'.sparse = false ∧ QInv s'.sync.cells.length c ∧ (0 < s'.sync.currentFrame → _)) ∨ _
      rw [hcells, hsp, hcur, hls]
      exact hmode

theorem DWInv_run {G : Type} (step : G → List (Input × InputStatus) → G) (g0 : G) (a b : P2P × GS G)
    (h : DWInv step g0 a) (hr : DWStar step a b) : DWInv step g0 b := by
  induction hr with
  | refl => exact h
  | step b c _ hs ih => exact DWInv_step step g0 b c ih hs

end Ggrs
