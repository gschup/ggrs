/-
L-synctest (C13): a SyncTestSession driving a deterministic game never reports MismatchedChecksum.

`STInv` pairs the session with the game (`step`, `g0`, checksum `csf`): `TInv` holds with no misprediction in a
queue, every row the game has simulated is `rowOf gh` (all real inputs), and the game's state, the saved cells
and `checksum_history` all come from the serial replay of these rows. So each comparison sees two checksums of
the same replay (`checksumsConsistent_true`), and the rollback re-simulates on the same rows (`st_adjust_spec`).
-/
import GgrsModel.Proofs.World
import GgrsModel.Proofs.Glue
import GgrsModel.Proofs.Rows
import GgrsModel.Proofs.Assoc
import GgrsModel.Proofs.GameCells
import GgrsModel.Model.SyncTest

namespace Ggrs
open InputQueue

theorem execReqs_advance_R (t : TLState) (reqs mid : List Request) (ins : List (Input × InputStatus))
    (hmid : ∀ r ∈ mid, ∃ f, r = .save f) :
    (execReqs t (reqs ++ mid ++ [.advance ins])).R = upd (execReqs t reqs).R (execReqs t reqs).cur.toNat ins := by
  rw [execReqs_append, execReqs_append, execReqs_saves _ mid hmid]
  rfl

theorem rows_upd {α} (R Rt : Nat → α) (c : Nat) (cur : Int) (hc : cur = c) (h : ∀ f : Nat, (f : Int) < cur → R f = Rt f) :
    ∀ f : Nat, (f : Int) < cur + 1 → upd R c (Rt c) f = Rt f := by
  intro f hf
  by_cases hfc : f = c
  · rw [hfc, upd_self]
  · rw [upd_ne _ _ _ _ hfc]
    exact h f (by omega)

theorem TInv_simulate_full (pr : Predictor) (sy sy' sy2 : SyncLayer) (st : List ConnStatus) (gh : Ghost)
    (t0 : TLState) (reqs mid : List Request) (inputs : List (Input × InputStatus)) (N : Nat)
    (h : TInv pr sy st gh t0 reqs) (hs : sy.synchronizedInputs pr st = .ok (sy', inputs))
    (hmid : ∀ r ∈ mid, ∃ f, r = .save f) (hq : sy2.queues = sy'.queues) (hc : sy2.currentFrame = sy'.currentFrame)
    (hN : sy.queues.length = N) (hfull : ∀ p, p < N → sy.currentFrame < ((gh.specs p).vals.length : Int))
    (hrows : ∀ f : Nat, (f : Int) < sy.currentFrame → (execReqs t0 reqs).R f = rowOf gh N f) :
    ∃ gh' : Ghost, inputs = rowOf gh N sy.currentFrame.toNat ∧ gh'.specs = gh.specs ∧
      TInv pr sy2.advanceFrame st gh' t0 (reqs ++ mid ++ [.advance inputs]) ∧
      sy2.advanceFrame.currentFrame = sy.currentFrame + 1 ∧ sy2.advanceFrame.queues.length = N ∧
      AllAsked sy2.advanceFrame.queues sy2.advanceFrame.currentFrame ∧
      (∀ p, p < sy2.advanceFrame.queues.length → (rget sy2.advanceFrame.queues p).firstIncorrectFrame = NULL_FRAME) ∧
      ∀ f : Nat, (f : Int) < sy.currentFrame + 1 →
        (execReqs t0 (reqs ++ mid ++ [.advance inputs])).R f = rowOf gh N f := by
  obtain ⟨c, gh', hc0, hok, hsp, hinv, hcur, hask, hclean⟩ :=
    TInv_simulate pr sy sy' sy2 st gh t0 reqs mid inputs h hs hmid hq hc
  obtain ⟨_, _, _, _, _, hil, _⟩ := SyncInv_simulate pr sy sy' st gh inputs h.sync hs
  have hcn : sy.currentFrame.toNat = c := hc0 ▸ Int.toNat_natCast c
  have hrow : inputs = rowOf gh N c :=
    inputs_eq_row pr gh N c inputs (by rw [hil, hN]) hok (fun p hp => Int.ofNat_lt.mp (hc0 ▸ hfull p hp))
  refine ⟨gh', by rw [hcn]; exact hrow, hsp, hinv, hcur, by rw [← hinv.sync.nq, h.sync.nq]; exact hN, hask, hclean, ?_⟩
  rw [execReqs_advance_R t0 reqs mid inputs hmid, h.exec, hcn, hrow]
  exact rows_upd _ _ c _ hc0 hrows

/-- The requests of a re-simulation as the game sees them: per frame an optional save, then the advance on row `Rt`. -/
def STShape (Rt : Nat → List (Input × InputStatus)) : Nat → Int → Nat → List Request → Prop
  | _, _, 0, L => L = []
  | i, c, n + 1, L => ∃ L', L = (if i > 0 then [Request.save c] else []) ++ [.advance (Rt c.toNat)] ++ L' ∧
      STShape Rt (i + 1) (c + 1) n L'

theorem STShape.resimShape (Rt : Nat → List (Input × InputStatus)) : ∀ (n i : Nat) (c : Int) (L : List Request),
    STShape Rt i c n L → ResimShape false i c n L
  | 0, _, _, _, h => h
  | n + 1, i, c, _, ⟨L', hL, h⟩ => by
    refine ⟨_, _, L', hL, ?_, fun _ => ⟨fun h0 => ?_, fun h0 => ?_⟩, STShape.resimShape Rt n _ _ L' h⟩
    · by_cases hi : i > 0
      · exact Or.inr (if_pos hi)
      · exact Or.inl (if_neg hi)
    · exact if_neg (by omega)
    · exact if_pos h0

theorem st_resimSave_shape (i : Nat) (sy sy' : SyncLayer) (reqs reqs' : List Request)
    (h : SyncTest.resimSave i sy reqs = .ok (sy', reqs')) :
    reqs' = reqs ++ (if i > 0 then [.save sy.currentFrame] else []) ∧ ∃ l, sy' = { sy with lastSavedFrame := l } := by
  unfold SyncTest.resimSave at h
  by_cases hi : i > 0
  · rw [if_pos hi] at h ⊢
    obtain ⟨⟨sy3, rq⟩, hs3, h⟩ := bind_ok h
    obtain ⟨rfl, rfl⟩ := pure_ok_pair h
    obtain ⟨_, rfl, rfl⟩ := SyncLayer.saveCurrentState_ok hs3
    exact ⟨rfl, _, rfl⟩
  · rw [if_neg hi] at h ⊢
    obtain ⟨rfl, rfl⟩ := pure_ok_pair h
    exact ⟨(List.append_nil _).symm, sy.lastSavedFrame, rfl⟩

theorem st_loop_shape (s : SyncTest) : ∀ (n i : Nat) (sy : SyncLayer) (reqs : List Request) (sy' : SyncLayer)
    (reqs' : List Request), SyncTest.adjustGamestate.loop s n i sy reqs = .ok (sy', reqs') →
    ∃ qs l, sy' = { sy with queues := qs, lastSavedFrame := l, currentFrame := sy.currentFrame + n }
  | 0, _, sy, _, _, _, hl => by
    simp only [SyncTest.adjustGamestate.loop] at hl
    cases hl
    exact ⟨sy.queues, sy.lastSavedFrame, by show sy = { sy with currentFrame := sy.currentFrame + 0 }; rw [Int.add_zero]⟩
  | k + 1, i, sy, reqs, sy', reqs', hl => by
    simp only [SyncTest.adjustGamestate.loop, bind_eq_ok, Prod.exists] at hl
    obtain ⟨sy1, inputs, hsim, sy2, reqs2, hsave, hl⟩ := hl
    obtain ⟨qs1, _, rfl⟩ := SyncLayer.synchronizedInputs_ok hsim
    obtain ⟨_, l1, rfl⟩ := st_resimSave_shape i _ sy2 reqs reqs2 hsave
    obtain ⟨qs, l, rfl⟩ := st_loop_shape s k _ _ _ _ _ hl
    refine ⟨qs, l, ?_⟩
    show ({ sy with queues := qs, lastSavedFrame := l, currentFrame := sy.currentFrame + 1 + k } : SyncLayer) = _
    rw [Int.add_assoc, Int.add_comm 1]
    rfl

theorem saveIf_saves (b : Prop) [Decidable b] (c : Frame) : ∀ r ∈ (if b then [Request.save c] else []), ∃ f, r = .save f := by
  intro r hr
  split at hr
  · exact ⟨c, List.mem_singleton.mp hr⟩
  · cases hr

/-- The re-simulation loop of a sync test: every re-simulated row is the full row of real inputs. -/
theorem st_resim_loop (s : SyncTest) (t0 : TLState) (N : Nat) (cmax : Int) : ∀ (n i : Nat) (sy : SyncLayer)
    (reqs : List Request) (sy' : SyncLayer) (reqs' : List Request) (gh : Ghost),
    TInv s.pred sy s.dummyConnectStatus gh t0 reqs → sy.queues.length = N →
    (∀ p, p < N → cmax ≤ (gh.specs p).vals.length) → sy.currentFrame + (n : Int) ≤ cmax →
    (∀ f : Nat, (f : Int) < sy.currentFrame → (execReqs t0 reqs).R f = rowOf gh N f) →
    SyncTest.adjustGamestate.loop s n i sy reqs = .ok (sy', reqs') →
    ∃ gh' : Ghost, TInv s.pred sy' s.dummyConnectStatus gh' t0 reqs' ∧ gh'.specs = gh.specs ∧
      sy'.currentFrame = sy.currentFrame + n ∧ sy'.queues.length = N ∧ sy'.cells = sy.cells ∧
      (∀ f : Nat, (f : Int) < sy'.currentFrame → (execReqs t0 reqs').R f = rowOf gh N f) ∧
      (n > 0 → AllAsked sy'.queues sy'.currentFrame ∧
        ∀ p, p < sy'.queues.length → (rget sy'.queues p).firstIncorrectFrame = NULL_FRAME) ∧
      ∃ L, reqs' = reqs ++ L ∧ ResimShape false i sy.currentFrame n L ∧ STShape (rowOf gh N) i sy.currentFrame n L := by
  intro n
  induction n with
  | zero =>
    intro i sy reqs sy' reqs' gh h hN _ _ hrows hl
    simp only [SyncTest.adjustGamestate.loop] at hl
    cases hl
    exact ⟨gh, h, rfl, by simp, hN, rfl, hrows, fun h0 => absurd h0 (by omega), [], by simp, rfl, rfl⟩
  | succ k ih =>
    intro i sy reqs sy' reqs' gh h hN hfull hbound hrows hl
    simp only [SyncTest.adjustGamestate.loop, bind_eq_ok, Prod.exists] at hl
    obtain ⟨sy1, inputs, hsim, sy2, reqs2, hsave, hl⟩ := hl
    obtain ⟨hr2, l, rfl⟩ := st_resimSave_shape i sy1 sy2 reqs reqs2 hsave
    obtain ⟨hc1, hcl1, _⟩ := syncInputs_fields _ _ _ _ _ hsim
    have hb : sy.currentFrame + 1 + (k : Int) ≤ cmax := by omega
    obtain ⟨gh1, hrow, hsp1, hinv1, hcur1, hN1, hask1, hclean1, hrows1⟩ :=
      TInv_simulate_full s.pred sy sy1 { sy1 with lastSavedFrame := l } s.dummyConnectStatus gh t0 reqs _ inputs N h hsim
        (saveIf_saves (i > 0) sy1.currentFrame) rfl rfl hN
        (fun p hp => by have := hfull p hp; omega) hrows
    have hR : rowOf gh1 N = rowOf gh N := rowOf_specs gh gh1 N hsp1
    rw [hr2] at hl
    obtain ⟨gh', hinv', hsp', hcur', hN', hcl', hrows', hrest, L', hL', -, hst'⟩ :=
      ih (i + 1) _ _ sy' reqs' gh1 hinv1 hN1 (fun p hp => by rw [hsp1]; exact hfull p hp)
        (by rw [hcur1]; exact hb) (by rw [hR, hcur1]; exact hrows1) hl
    rw [hR, hcur1] at hst'
    have hst : STShape (rowOf gh N) i sy.currentFrame (k + 1) ((if i > 0 then [.save sy.currentFrame] else []) ++
        [.advance inputs] ++ L') := ⟨L', by rw [hrow], hst'⟩
    refine ⟨gh', hinv', hsp'.trans hsp1, by rw [hcur', hcur1]; omega, hN',
      hcl'.trans hcl1, by rw [← hR]; exact hrows', fun _ => ?_, _, ?_, hst.resimShape, hst⟩
    · cases k with
      | zero =>
        simp only [SyncTest.adjustGamestate.loop] at hl
        cases hl
        exact ⟨hask1, hclean1⟩
      | succ k => exact hrest (Nat.succ_pos k)
    · rw [hL', hc1]
      simp only [List.append_assoc]

theorem SyncTest.adjustGamestate_ok {s s' : SyncTest} {frameTo : Frame} {reqs reqs' : List Request}
    (h : s.adjustGamestate frameTo reqs = .ok (s', reqs')) :
    ∃ sy1 req sy2, s.sync.loadFrame frameTo = .ok (sy1, req) ∧
      SyncTest.adjustGamestate.loop s (s.sync.currentFrame - frameTo).toNat 0 sy1.resetPrediction (reqs ++ [req])
        = .ok (sy2, reqs') ∧
      sy2.currentFrame = s.sync.currentFrame ∧ s' = { s with sync := sy2 } := by
  simp only [SyncTest.adjustGamestate, bind_eq_ok, pure_eq_ok, ensure_eq_ok, Prod.exists, Prod.mk.injEq] at h
  obtain ⟨sy1, req, hload, _, _, sy2, reqs2, hloop, _, hback, rfl, rfl⟩ := h
  exact ⟨sy1, req, sy2, hload, hloop, by simpa using hback, rfl⟩

theorem st_adjust_shape (s s' : SyncTest) (frameTo : Frame) (reqs reqs' : List Request)
    (hadj : s.adjustGamestate frameTo reqs = .ok (s', reqs')) :
    ∃ qs l, s' = { s with sync := { s.sync with queues := qs, lastSavedFrame := l } } := by
  obtain ⟨sy1, req, sy2, hload, hloop, hcur, rfl⟩ := SyncTest.adjustGamestate_ok hadj
  obtain ⟨_, _, _, _, rfl, rfl⟩ := SyncLayer.loadFrame_ok hload
  obtain ⟨qs, l, rfl⟩ := st_loop_shape s _ _ _ _ _ _ hloop
  refine ⟨qs, l, ?_⟩
  have hcur : frameTo + ((s.sync.currentFrame - frameTo).toNat : Int) = s.sync.currentFrame := hcur
  show ({ s with sync := { s.sync with
    queues := qs, lastSavedFrame := l, currentFrame := frameTo + ((s.sync.currentFrame - frameTo).toNat : Int) } } :
    SyncTest) = _
  rw [hcur]

/-- `adjust_gamestate` of a sync test: load `frame_to`, re-simulate back to the current frame. -/
theorem st_adjust_spec (s s' : SyncTest) (frameTo : Frame) (t0 : TLState) (reqs reqs' : List Request) (gh : Ghost)
    (N : Nat) (h : TInv s.pred s.sync s.dummyConnectStatus gh t0 reqs) (hN : s.sync.queues.length = N)
    (hfull : ∀ p, p < N → s.sync.currentFrame ≤ (gh.specs p).vals.length)
    (hclean : ∀ p, p < s.sync.queues.length → (rget s.sync.queues p).firstIncorrectFrame = NULL_FRAME)
    (hrows : ∀ f : Nat, (f : Int) < s.sync.currentFrame → (execReqs t0 reqs).R f = rowOf gh N f)
    (hadj : s.adjustGamestate frameTo reqs = .ok (s', reqs')) :
    ∃ gh' : Ghost, TInv s.pred s'.sync s.dummyConnectStatus gh' t0 reqs' ∧ gh'.specs = gh.specs ∧
      s' = { s with sync := s'.sync } ∧ s'.sync.currentFrame = s.sync.currentFrame ∧ s'.sync.queues.length = N ∧
      s'.sync.cells = s.sync.cells ∧
      (∀ f : Nat, (f : Int) < s'.sync.currentFrame → (execReqs t0 reqs').R f = rowOf gh N f) ∧
      AllAsked s'.sync.queues s'.sync.currentFrame ∧
      (∀ p, p < s'.sync.queues.length → (rget s'.sync.queues p).firstIncorrectFrame = NULL_FRAME) ∧
      0 ≤ frameTo ∧ frameTo < s.sync.currentFrame ∧
      (rget s.sync.cells (frameTo.toNat % s.sync.cells.length)).frame = frameTo ∧
      ∃ L, reqs' = reqs ++ [.load frameTo] ++ L ∧ ResimShape false 0 frameTo (s.sync.currentFrame - frameTo).toNat L ∧
        STShape (rowOf gh N) 0 frameTo (s.sync.currentFrame - frameTo).toNat L := by
  obtain ⟨sy1, req, sy2, hload, hloop, hcur2, rfl⟩ := SyncTest.adjustGamestate_ok hadj
  obtain ⟨h0, hlt, _, htag, rfl, rfl⟩ := SyncLayer.loadFrame_ok hload
  obtain ⟨gh', hinv', hsp', hcur', hN', hcl', hrows', hrest, L, hL, hsh, hst⟩ :=
    st_resim_loop s t0 N s.sync.currentFrame _ 0 _ _ sy2 reqs' _
      (TInv_load h h0 (Int.le_of_lt hlt) fun p hp hne => absurd (hclean p hp) hne)
      ((List.length_map _).trans hN)
      hfull (by show frameTo + _ ≤ _; omega)
      (fun f hf => by rw [execReqs_append]; exact hrows f (Int.lt_trans hf hlt)) hloop
  obtain ⟨hask, hcl⟩ := hrest (by omega)
  rw [frameIdx_of_nonneg _ h0] at htag
  exact ⟨gh', hinv', hsp', rfl, hcur2, hN', hcl', hrows', hask, hcl, h0, hlt, htag, L, hL, hsh, hst⟩

end Ggrs

namespace Ggrs

/-- Every checksum in `checksum_history` is the checksum of the replay up to its frame. -/
def HistOk {G : Type} (step : G → List (Input × InputStatus) → G) (g0 : G) (csf : G → Option Nat)
    (hist : List (Int × Option Nat)) (R : Nat → List (Input × InputStatus)) (cur : Int) : Prop :=
  ∀ f c, alookup f hist = some c → 0 ≤ f ∧ f ≤ cur ∧ c = csf (replay step g0 R f.toNat)

/-- Every written cell carries the checksum of the replay up to the frame it is tagged with. -/
def CellsOk {G : Type} (step : G → List (Input × InputStatus) → G) (g0 : G) (csf : G → Option Nat)
    (cells : List Cell) (R : Nat → List (Input × InputStatus)) : Prop :=
  ∀ i, i < cells.length → 0 ≤ (rget cells i).frame →
    (rget cells i).checksum = csf (replay step g0 R (rget cells i).frame.toNat)

theorem HistOk_filter {G : Type} {step : G → List (Input × InputStatus) → G} {g0 : G} {csf : G → Option Nat}
    {hist : List (Int × Option Nat)} {R : Nat → List (Input × InputStatus)} {cur : Int} (keep : Int → Bool)
    (h : HistOk step g0 csf hist R cur) : HistOk step g0 csf (hist.filter fun p => keep p.1) R cur := by
  intro f c hl
  rw [alookup_filter_key] at hl
  split at hl
  · exact h f c hl
  · cases hl

theorem HistOk_insert {G : Type} {step : G → List (Input × InputStatus) → G} {g0 : G} {csf : G → Option Nat}
    {hist : List (Int × Option Nat)} {R : Nat → List (Input × InputStatus)} {cur : Int} (f : Int)
    (h : HistOk step g0 csf hist R cur) (h0 : 0 ≤ f) (hle : f ≤ cur) :
    HistOk step g0 csf (ainsert f (csf (replay step g0 R f.toNat)) hist) R cur := by
  intro f' c' hl
  by_cases hff : f' = f
  · rw [hff, alookup_ainsert_self] at hl
    cases hl
    exact ⟨hff ▸ h0, hff ▸ hle, by rw [hff]⟩
  · rw [alookup_ainsert_ne _ _ _ hff] at hl
    exact h f' c' hl

theorem savedStateByFrame_ok (sy : SyncLayer) (f : Frame) (r : Option Cell) (h : sy.savedStateByFrame f = .ok r) :
    0 ≤ f ∧ r = if (rget sy.cells (frameIdx f sy.cells.length)).frame == f then
      some (rget sy.cells (frameIdx f sy.cells.length)) else none := by
  simp only [SyncLayer.savedStateByFrame, SyncLayer.cellPos, bind_eq_ok, pure_eq_ok, ensure_eq_ok] at h
  obtain ⟨_, ⟨_, h0, rfl⟩, rfl⟩ := h
  exact ⟨by simpa using h0, rfl⟩

def stPruned (s : SyncTest) : List (Int × Option Nat) :=
  s.checksumHistory.filter fun p => decide (p.1 ≥ s.sync.currentFrame - (s.checkDistance : Int))

theorem checksumsConsistent_ok (s s' : SyncTest) (f : Frame) (ok : Bool) (cell : Cell)
    (hcell : cell = rget s.sync.cells (frameIdx f s.sync.cells.length))
    (h : s.checksumsConsistent f = .ok (s', ok)) :
    0 ≤ f ∧ ∃ hist, s' = { s with checksumHistory := hist } ∧
    ((cell.frame ≠ f ∧ hist = stPruned s ∧ ok = true) ∨
     (cell.frame = f ∧ ∃ cs, alookup f (stPruned s) = some cs ∧ hist = stPruned s ∧ ok = (cs == cell.checksum)) ∨
     (cell.frame = f ∧ alookup f (stPruned s) = none ∧ hist = ainsert f cell.checksum (stPruned s) ∧ ok = true)) := by
  unfold SyncTest.checksumsConsistent at h
  simp only [bind_eq_ok] at h
  obtain ⟨r, hsv, h⟩ := h
  obtain ⟨h0, rfl⟩ := savedStateByFrame_ok _ f r hsv
  refine ⟨h0, ?_⟩
  rw [← hcell] at h
  change (match (if (cell.frame == f) = true then some cell else none) with
    | none => pure ({ s with checksumHistory := stPruned s }, true)
    | some cell => match alookup cell.frame (stPruned s) with
      | some cs => pure ({ s with checksumHistory := stPruned s }, cs == cell.checksum)
      | none => pure ({ s with checksumHistory := ainsert cell.frame cell.checksum (stPruned s) }, true) :
      M (SyncTest × Bool)) = .ok (s', ok) at h
  by_cases hcf : cell.frame = f
  · rw [if_pos (by simpa using hcf)] at h
    simp only [hcf] at h
    cases hlk : alookup f (stPruned s) with
    | some cs =>
      rw [hlk] at h
      obtain ⟨rfl, rfl⟩ := pure_ok_pair h
      exact ⟨_, rfl, Or.inr (Or.inl ⟨hcf, cs, rfl, rfl, rfl⟩)⟩
    | none =>
      rw [hlk] at h
      obtain ⟨rfl, rfl⟩ := pure_ok_pair h
      exact ⟨_, rfl, Or.inr (Or.inr ⟨hcf, rfl, rfl, rfl⟩)⟩
  · rw [if_neg (by simpa using hcf)] at h
    obtain ⟨rfl, rfl⟩ := pure_ok_pair h
    exact ⟨_, rfl, Or.inl ⟨hcf, rfl, rfl⟩⟩

theorem checkFrames_shape (oldest : Frame) : ∀ (n i : Nat) (s s' : SyncTest) (mis mis' : List Frame),
    SyncTest.checkFrames oldest n i s mis = .ok (s', mis') → ∃ hist, s' = { s with checksumHistory := hist }
  | 0, _, s, _, _, _, h => by
    simp only [SyncTest.checkFrames] at h
    cases h
    exact ⟨s.checksumHistory, rfl⟩
  | n + 1, i, s, s', mis, mis', h => by
    simp only [SyncTest.checkFrames, bind_eq_ok, Prod.exists] at h
    obtain ⟨s1, ok, hcc, h⟩ := h
    obtain ⟨_, hist1, rfl, _⟩ := checksumsConsistent_ok s s1 _ ok _ rfl hcc
    obtain ⟨hist, rfl⟩ := checkFrames_shape oldest n _ _ s' _ mis' h
    exact ⟨hist, rfl⟩

/-- **One comparison never fails**: the checksum on record for `f` and the one in the cell of `f` are both
`csf` of the replay up to `f`. -/
theorem checksumsConsistent_true {G : Type} (step : G → List (Input × InputStatus) → G) (g0 : G)
    (csf : G → Option Nat) (s s' : SyncTest) (f : Frame) (ok : Bool) (R : Nat → List (Input × InputStatus))
    (cur : Int) (hh : HistOk step g0 csf s.checksumHistory R cur) (hc : CellsOk step g0 csf s.sync.cells R)
    (hn : 0 < s.sync.cells.length) (htle : ∀ i, i < s.sync.cells.length → (rget s.sync.cells i).frame ≤ cur)
    (h : s.checksumsConsistent f = .ok (s', ok)) :
    ok = true ∧ HistOk step g0 csf s'.checksumHistory R cur ∧ s'.sync = s.sync ∧ s'.pred = s.pred ∧
    s'.dummyConnectStatus = s.dummyConnectStatus ∧ s'.checkDistance = s.checkDistance ∧
    s'.numPlayers = s.numPlayers ∧ s'.localInputs = s.localInputs ∧ s'.maxPrediction = s.maxPrediction := by
  obtain ⟨hf0, hist, rfl, hcase⟩ := checksumsConsistent_ok s s' f ok _ rfl h
  have hpos : frameIdx f s.sync.cells.length < s.sync.cells.length := Nat.mod_lt _ hn
  have hh1 : HistOk step g0 csf (stPruned s) R cur :=
    HistOk_filter (fun k => decide (k ≥ s.sync.currentFrame - (s.checkDistance : Int))) hh
  have hsum : (rget s.sync.cells (frameIdx f s.sync.cells.length)).frame = f →
      (rget s.sync.cells (frameIdx f s.sync.cells.length)).checksum = csf (replay step g0 R f.toNat) := fun hfr => by
    have := hc _ hpos (by rw [hfr]; exact hf0)
    rwa [hfr] at this
  suffices ok = true ∧ HistOk step g0 csf hist R cur from ⟨this.1, this.2, rfl, rfl, rfl, rfl, rfl, rfl, rfl⟩
  rcases hcase with ⟨_, rfl, rfl⟩ | ⟨hfr, cs, hlk, rfl, rfl⟩ | ⟨hfr, _, rfl, rfl⟩
  · exact ⟨rfl, hh1⟩
  · exact ⟨by rw [(hh1 f cs hlk).2.2, hsum hfr]; exact beq_self_eq_true _, hh1⟩
  · rw [hsum hfr]
    exact ⟨rfl, HistOk_insert f hh1 hf0 (hfr ▸ htle _ hpos)⟩

theorem checkFrames_none {G : Type} (step : G → List (Input × InputStatus) → G) (g0 : G)
    (csf : G → Option Nat) (R : Nat → List (Input × InputStatus)) (oldest : Frame) (cur : Int) :
    ∀ (n i : Nat) (s s' : SyncTest) (mis mis' : List Frame),
    HistOk step g0 csf s.checksumHistory R cur → CellsOk step g0 csf s.sync.cells R → 0 < s.sync.cells.length →
    (∀ i, i < s.sync.cells.length → (rget s.sync.cells i).frame ≤ cur) →
    SyncTest.checkFrames oldest n i s mis = .ok (s', mis') →
    mis' = mis ∧ HistOk step g0 csf s'.checksumHistory R cur ∧ s'.sync = s.sync ∧ s'.pred = s.pred ∧
    s'.dummyConnectStatus = s.dummyConnectStatus ∧ s'.checkDistance = s.checkDistance ∧
    s'.numPlayers = s.numPlayers ∧ s'.localInputs = s.localInputs ∧ s'.maxPrediction = s.maxPrediction := by
  intro n
  induction n with
  | zero =>
    intro i s s' mis mis' hh _ _ _ h
    simp only [SyncTest.checkFrames] at h
    cases h
    exact ⟨rfl, hh, rfl, rfl, rfl, rfl, rfl, rfl, rfl⟩
  | succ k ih =>
    intro i s s' mis mis' hh hc hn htle h
    simp only [SyncTest.checkFrames, bind_eq_ok, Prod.exists] at h
    obtain ⟨s1, ok, hcc, h⟩ := h
    obtain ⟨rfl, hh1, _⟩ := checksumsConsistent_true step g0 csf s s1 _ ok R cur hh hc hn htle hcc
    obtain ⟨_, hist1, rfl, _⟩ := checksumsConsistent_ok s s1 _ true _ rfl hcc
    exact ih (i + 1) { s with checksumHistory := hist1 } s' mis mis' hh1 hc hn htle h

end Ggrs

namespace Ggrs
open InputQueue

theorem setLastConfirmed_sync (pr : Predictor) (sy sy' : SyncLayer) (statuses : List ConnStatus) (gh : Ghost)
    (t0 : TLState) (reqs : List Request) (frame : Frame) (sp : Bool)
    (h : TInv pr sy statuses gh t0 reqs) (hask : AllAsked sy.queues sy.currentFrame)
    (hle : ∀ p, p < sy.queues.length → frame - 1 < (rget sy.queues p).lastAddedFrame)
    (hset : sy.setLastConfirmedFrame frame sp = .ok sy') :
    TInv pr sy' statuses gh t0 reqs ∧ AllAsked sy'.queues sy'.currentFrame ∧ sy'.currentFrame = sy.currentFrame ∧
    sy'.queues.length = sy.queues.length ∧ sy'.cells = sy.cells ∧
    (∀ p, p < sy'.queues.length → (rget sy'.queues p).firstIncorrectFrame = (rget sy.queues p).firstIncorrectFrame) := by
  obtain ⟨fr, qs, hfr, rfl, hpos, hneg⟩ := SyncLayer.setLastConfirmedFrame_ok hset
  have hfrle : fr ≤ frame := hfr ▸ confirmTarget_le sp frame sy.lastSavedFrame sy.currentFrame
  by_cases h0 : 0 < fr
  · obtain ⟨hl, hpt⟩ := mapM_ok _ _ _ (hpos h0)
    have hstep : ∀ p, p < sy.queues.length →
        QI pr (rget qs p) (gh.specs p) (gh.hists p) (gh.T p) sy.currentFrame ∧ Asked (rget qs p) sy.currentFrame ∧
        (rget qs p).firstIncorrectFrame = (rget sy.queues p).firstIncorrectFrame := by
      intro p hp
      have hd := hpt p hp
      have hlt : fr - 1 < (rget sy.queues p).lastAddedFrame := by have := hle p hp; omega
      obtain ⟨hqi, hask'⟩ := QI_discard pr _ _ _ _ _ _ (fr - 1) (h.sync.all p hp) (hask p hp) hlt hd
      exact ⟨hqi, hask', (discard_fields _ _ _ hd).2.1⟩
    exact ⟨⟨⟨h.sync.cur, h.sync.nq.trans hl.symm, h.sync.conn, fun p hp => (hstep p (hl ▸ hp)).1⟩, h.exec,
      fun p hp f => h.rows p (hl ▸ hp) f⟩, fun p hp => (hstep p (hl ▸ hp)).2.1, rfl, hl, rfl,
      fun p hp => (hstep p (hl ▸ hp)).2.2⟩
  · obtain rfl := hneg h0
    exact ⟨h.congr rfl rfl rfl, hask, rfl, rfl, rfl, fun _ _ => rfl⟩

def Submitted (s : QSpec) (cur : Int) : Prop := s.lastUser = cur ∧ cur + 1 ≤ (s.vals.length : Int)

theorem submit_state (s : QSpec) (cur : Int) (v : Input) (h0 : 0 ≤ cur)
    (h : s.lastUser = cur - 1 ∨ Submitted s cur) : Submitted (s.submit cur v).1 cur := by
  have hd : cur ≤ cur + (s.delay : Int) := Int.le_add_of_nonneg_right (Int.natCast_nonneg _)
  rcases h with h1 | ⟨h1, h2⟩
  · rw [QSpec.submit_seq v (Or.inr (by rw [h1, Int.sub_add_cancel]))]
    split
    · exact ⟨rfl, Int.add_one_le_of_lt (Int.lt_of_le_of_lt hd ‹_›)⟩
    · exact ⟨rfl, by rw [length_landed _ _ _ _ ‹_›]; exact Int.add_le_add_right hd 1⟩
  · rw [QSpec.submit_gap v ⟨by rw [h1]; omega, by rw [h1]; omega⟩]
    exact ⟨h1, h2⟩

theorem addLocalInput_spec (pr : Predictor) (st : List ConnStatus) (t0 : TLState) (reqs : List Request)
    (sy sy1 : SyncLayer) (gh : Ghost) (hd : Nat) (inp : PlayerInput) (fr : Frame)
    (h : TInv pr sy st gh t0 reqs) (hask : AllAsked sy.queues sy.currentFrame)
    (hlu : ∀ p, p < sy.queues.length → (gh.specs p).lastUser = sy.currentFrame - 1 ∨ Submitted (gh.specs p) sy.currentFrame)
    (hadd : sy.addLocalInput hd inp = .ok (sy1, fr)) :
    ∃ qs : List InputQueue, sy1 = { sy with queues := qs } ∧ qs.length = sy.queues.length ∧
      TInv pr sy1 st (ghAfter gh hd inp) t0 reqs ∧ AllAsked qs sy.currentFrame ∧
      Submitted ((ghAfter gh hd inp).specs hd) sy.currentFrame := by
  obtain ⟨hinpf, hp, q', haq, rfl⟩ := SyncLayer.addLocalInput_ok hadd
  obtain ⟨hqi, hask1, _⟩ := QI_add pr _ q' _ _ _ _ inp.frame inp.input fr (h.sync.all hd hp) (hask hd hp) haq
  have hlen1 : (rset sy.queues hd q').length = sy.queues.length := rset_length _ _ _
  refine ⟨_, rfl, hlen1,
    ⟨⟨h.sync.cur, h.sync.nq.trans hlen1.symm, h.sync.conn, fun i hi => ?_⟩, h.exec, fun i hi => h.rows i (hlen1 ▸ hi)⟩,
    fun i hi => ?_, ?_⟩
  · show QI pr (rget (rset sy.queues hd q') i) ((ghAfter gh hd inp).specs i) _ _ _
    by_cases hie : i = hd
    · rw [hie, ghAfter_self, rget_rset_eq _ _ _ hp]; exact hqi
    · rw [ghAfter_ne _ _ _ _ hie, rget_rset_ne _ _ _ _ (Ne.symm hie)]; exact h.sync.all i (hlen1 ▸ hi)
  · by_cases hie : i = hd
    · rw [hie, rget_rset_eq _ _ _ hp]; exact hask1
    · rw [rget_rset_ne _ _ _ _ (Ne.symm hie)]; exact hask i (hlen1 ▸ hi)
  · rw [ghAfter_self, hinpf]
    exact submit_state _ _ _ h.sync.cur (hlu hd hp)

/-- The local inputs of one tick: every player in the list has its input for the current frame in its stream. -/
theorem addLocalInputs_spec (pr : Predictor) (statuses : List ConnStatus) (t0 : TLState) (reqs : List Request) :
    ∀ (l : List (Nat × PlayerInput)) (sy sy' : SyncLayer) (gh : Ghost),
    TInv pr sy statuses gh t0 reqs → AllAsked sy.queues sy.currentFrame →
    (∀ p, p < sy.queues.length → (gh.specs p).lastUser = sy.currentFrame - 1 ∨ Submitted (gh.specs p) sy.currentFrame) →
    SyncTest.addLocalInputs l sy = .ok sy' →
    ∃ gh' : Ghost, TInv pr sy' statuses gh' t0 reqs ∧ AllAsked sy'.queues sy'.currentFrame ∧ gh'.T = gh.T ∧
      sy'.currentFrame = sy.currentFrame ∧ sy'.queues.length = sy.queues.length ∧ sy'.cells = sy.cells ∧
      sy'.lastSavedFrame = sy.lastSavedFrame ∧
      (∀ p, (gh.specs p).vals.length ≤ (gh'.specs p).vals.length ∧
        ∀ f, f < (gh.specs p).vals.length → (gh'.specs p).vals.getD f 0 = (gh.specs p).vals.getD f 0) ∧
      (∀ p, p < sy.queues.length → (gh'.specs p).lastUser = sy.currentFrame - 1 ∨ Submitted (gh'.specs p) sy.currentFrame) ∧
      (∀ p, p < sy.queues.length → Submitted (gh.specs p) sy.currentFrame → Submitted (gh'.specs p) sy.currentFrame) ∧
      (∀ p inp, (p, inp) ∈ l → p < sy.queues.length → Submitted (gh'.specs p) sy.currentFrame) := by
  intro l
  induction l with
  | nil =>
    intro sy sy' gh h hask hlu hadd
    simp only [SyncTest.addLocalInputs] at hadd
    cases hadd
    exact ⟨gh, h, hask, rfl, rfl, rfl, rfl, rfl, (fun p => ⟨Nat.le_refl _, fun _ _ => rfl⟩), hlu, (fun _ _ hs => hs),
      (fun p inp hin _ => by cases hin)⟩
  | cons x xs ih =>
    intro sy sy' gh h hask hlu hadd
    obtain ⟨hd, inp⟩ := x
    simp only [SyncTest.addLocalInputs, bind_eq_ok, Prod.exists] at hadd
    obtain ⟨sy1, fr, hadd1, hadd⟩ := hadd
    obtain ⟨qs, rfl, hq1, hinv1, hask1, hsub⟩ :=
      addLocalInput_spec pr statuses t0 reqs sy sy1 gh hd inp fr h hask hlu hadd1
    have hsub1 : ∀ p, Submitted (gh.specs p) sy.currentFrame ∨ p = hd →
        Submitted ((ghAfter gh hd inp).specs p) sy.currentFrame := by
      intro p hs
      by_cases hie : p = hd
      · rw [hie]; exact hsub
      · rw [ghAfter_ne _ _ _ _ hie]; exact hs.resolve_right hie
    obtain ⟨gh', hinv', hask', hT', hc', hq', hcl', hls', hgrow', hlu', hstab', hin'⟩ :=
      ih { sy with queues := qs } sy' _ hinv1 hask1
        (fun p hp => by
          by_cases hie : p = hd
          · exact Or.inr (hsub1 p (Or.inr hie))
          · rw [ghAfter_ne _ _ _ _ hie]; exact hlu p (hq1 ▸ hp))
        hadd
    refine ⟨gh', hinv', hask', hT', hc', hq'.trans hq1, hcl', hls', fun p => PrefixOf.trans (ghAfter_prefix gh hd inp p) (hgrow' p),
      fun p hpp => hlu' p (hq1 ▸ hpp), fun p hpp hs => hstab' p (hq1 ▸ hpp) (hsub1 p (Or.inl hs)), fun p inp' hin hpp => ?_⟩
    rcases List.mem_cons.mp hin with heq | hin2
    · exact hstab' p (hq1 ▸ hpp) (hsub1 p (Or.inr (congrArg Prod.fst heq)))
    · exact hin' p inp' hin2 (hq1 ▸ hpp)

end Ggrs

namespace Ggrs

/-- Game and cells against the intended timeline `Rt`: the game's state, every stored state and every stored
checksum is the replay of `Rt` up to the frame it is tagged with. -/
structure GW {G : Type} (step : G → List (Input × InputStatus) → G) (g0 : G) (csf : G → Option Nat)
    (Rt : Nat → List (Input × InputStatus)) (cells : List Cell) (x : GS G) (cmax : Int) : Prop where
  nonneg : 0 ≤ x.cur
  le : x.cur ≤ cmax
  rows : ∀ f : Nat, (f : Int) < x.cur → x.R f = Rt f
  state : x.g = replay step g0 Rt x.cur.toNat
  cells : ∀ i, i < cells.length → 0 ≤ (rget cells i).frame →
    (rget cells i).frame ≤ cmax ∧ x.cellG i = replay step g0 Rt (rget cells i).frame.toNat ∧
    (rget cells i).checksum = csf (replay step g0 Rt (rget cells i).frame.toNat)

theorem GW_save {G : Type} {step : G → List (Input × InputStatus) → G} {g0 : G} {csf : G → Option Nat}
    {Rt : Nat → List (Input × InputStatus)} {cells : List Cell} {x : GS G} {cmax : Int}
    (h : GW step g0 csf Rt cells x cmax) (hn : 0 < cells.length) :
    GW step g0 csf Rt (rset cells (frameIdx x.cur cells.length) ⟨x.cur, csf x.g⟩)
      (execG step cells.length x (.save x.cur)) cmax := by
  have hlt : x.cur.toNat % cells.length < cells.length := Nat.mod_lt _ hn
  rw [frameIdx_of_nonneg _ h.nonneg]
  refine ⟨h.nonneg, h.le, h.rows, h.state, fun i hi h0 => ?_⟩
  rw [rset_length] at hi
  show _ ∧ upd x.cellG (x.cur.toNat % cells.length) x.g i = _ ∧ _
  by_cases hie : i = x.cur.toNat % cells.length
  · rw [hie, rget_rset_eq _ _ _ hlt, upd_self]
    exact ⟨h.le, h.state, by rw [h.state]⟩
  · rw [rget_rset_ne _ _ _ _ (Ne.symm hie), upd_ne _ _ _ _ hie] at *
    exact h.cells i hi h0

theorem GW_load {G : Type} (step : G → List (Input × InputStatus) → G) (g0 : G) (csf : G → Option Nat)
    (Rt : Nat → List (Input × InputStatus)) (cells : List Cell) (x : GS G) (cmax : Int) (f : Frame)
    (h : GW step g0 csf Rt cells x cmax) (hn : 0 < cells.length) (h0 : 0 ≤ f) (hlt : f ≤ x.cur)
    (htag : (rget cells (f.toNat % cells.length)).frame = f) :
    GW step g0 csf Rt (execSW step csf (cells, x) (.load f)).1 (execSW step csf (cells, x) (.load f)).2 cmax ∧
    (execSW step csf (cells, x) (.load f)).1 = cells ∧ (execSW step csf (cells, x) (.load f)).2.cur = f := by
  obtain ⟨a, b, _⟩ := h.cells _ (Nat.mod_lt _ hn) (by rw [htag]; exact h0)
  rw [htag] at a b
  exact ⟨⟨h0, a, fun g hg => h.rows g (Int.lt_of_lt_of_le hg hlt), b, h.cells⟩, rfl, rfl⟩

theorem GW_advance {G : Type} {step : G → List (Input × InputStatus) → G} {g0 : G} {csf : G → Option Nat}
    {Rt : Nat → List (Input × InputStatus)} {cells : List Cell} {x : GS G} {cmax : Int}
    (h : GW step g0 csf Rt cells x cmax) (hlt : x.cur < cmax) (n : Nat) :
    GW step g0 csf Rt cells (execG step n x (.advance (Rt x.cur.toNat))) cmax := by
  have h0 := h.nonneg
  refine ⟨Int.le_trans h0 (Int.le_add_one (Int.le_refl _)), Int.add_one_le_of_lt hlt,
    rows_upd x.R Rt _ x.cur (Int.toNat_of_nonneg h0).symm h.rows, ?_, h.cells⟩
  show step x.g (Rt x.cur.toNat) = replay step g0 Rt (x.cur + 1).toNat
  rw [Int.toNat_add h0 (by decide), h.state]
  rfl

theorem GW_congr {G : Type} (step : G → List (Input × InputStatus) → G) (g0 : G) (csf : G → Option Nat)
    (Rt Rt' : Nat → List (Input × InputStatus)) (cells : List Cell) (x : GS G) (cmax cmax' : Int)
    (h : GW step g0 csf Rt cells x cmax) (hle : cmax ≤ cmax')
    (hag : ∀ f : Nat, (f : Int) < cmax → Rt' f = Rt f) : GW step g0 csf Rt' cells x cmax' := by
  have hrep : ∀ k : Int, 0 ≤ k → k ≤ cmax → replay step g0 Rt' k.toNat = replay step g0 Rt k.toNat := fun k h0 hk =>
    replay_congr step g0 Rt Rt' _ fun j hj => hag j (by omega)
  refine ⟨h.nonneg, Int.le_trans h.le hle, fun f hf => by rw [h.rows f hf, hag f (Int.lt_of_lt_of_le hf h.le)], ?_, ?_⟩
  · rw [h.state, hrep _ h.nonneg h.le]
  · intro i hi hp
    obtain ⟨a, b, c⟩ := h.cells i hi hp
    rw [hrep _ hp a]
    exact ⟨Int.le_trans a hle, b, c⟩

theorem GW_frame {G : Type} (step : G → List (Input × InputStatus) → G) (g0 : G) (csf : G → Option Nat)
    (Rt : Nat → List (Input × InputStatus)) (cmax : Int) (b : Prop) [Decidable b] (cells : List Cell) (x : GS G)
    (h : GW step g0 csf Rt cells x cmax) (hn : 0 < cells.length) (hlt : x.cur < cmax) :
    ∃ cells' x', execSWs step csf (cells, x) ((if b then [.save x.cur] else []) ++ [.advance (Rt x.cur.toNat)]) = (cells', x') ∧
      GW step g0 csf Rt cells' x' cmax ∧ cells'.length = cells.length ∧ x'.cur = x.cur + 1 := by
  by_cases hb : b
  · rw [if_pos hb]
    exact ⟨_, _, rfl, GW_advance (GW_save h hn) hlt cells.length, rset_length _ _ _, rfl⟩
  · rw [if_neg hb]
    exact ⟨_, _, rfl, GW_advance h hlt cells.length, rfl, rfl⟩

theorem GW_resim {G : Type} (step : G → List (Input × InputStatus) → G) (g0 : G) (csf : G → Option Nat)
    (Rt : Nat → List (Input × InputStatus)) (cmax : Int) : ∀ (n i : Nat) (cells : List Cell) (x : GS G) (L : List Request),
    GW step g0 csf Rt cells x cmax → 0 < cells.length → x.cur + (n : Int) ≤ cmax → STShape Rt i x.cur n L →
    GW step g0 csf Rt (execSWs step csf (cells, x) L).1 (execSWs step csf (cells, x) L).2 cmax ∧
    (execSWs step csf (cells, x) L).1.length = cells.length ∧ (execSWs step csf (cells, x) L).2.cur = x.cur + n := by
  intro n
  induction n with
  | zero =>
    intro i cells x L h _ _ hs
    cases hs
    exact ⟨h, rfl, (Int.add_zero _).symm⟩
  | succ k ih =>
    intro i cells x L h hn hb hs
    obtain ⟨L', rfl, hs'⟩ := hs
    obtain ⟨cells1, x1, he, g1, l1, c1⟩ := GW_frame step g0 csf Rt cmax (i > 0) cells x h hn (by omega)
    rw [execSWs_append, he]
    obtain ⟨g2, l2, c2⟩ := ih (i + 1) cells1 x1 L' g1 (l1 ▸ hn) (by rw [c1]; omega) (c1 ▸ hs')
    exact ⟨g2, l2.trans l1, by rw [c2, c1]; omega⟩

end Ggrs

namespace Ggrs
open InputQueue

/-- Distinct handles below `N`, `N` of them: every handle is there. -/
theorem pigeon : ∀ (N : Nat) (l : List Nat), l.Nodup → (∀ h ∈ l, h < N) →
    l.length ≤ N ∧ (l.length = N → ∀ p, p < N → p ∈ l)
  | 0, l, _, hlt => by
    cases l with
    | nil => exact ⟨Nat.le_refl _, fun _ p hp => absurd hp (Nat.not_lt_zero p)⟩
    | cons a as => exact absurd (hlt a List.mem_cons_self) (Nat.not_lt_zero a)
  | N + 1, l, hnd, hlt => by
    have hlt' : ∀ h ∈ l.erase N, h < N := fun h hh =>
      Nat.lt_of_le_of_ne (Nat.le_of_lt_succ (hlt h (List.mem_of_mem_erase hh))) ((List.Nodup.mem_erase_iff hnd).mp hh).1
    obtain ⟨a, b⟩ := pigeon N (l.erase N) (hnd.erase N) hlt'
    by_cases hN : N ∈ l
    · have hlen := List.length_erase_of_mem hN
      have hpos := List.length_pos_of_mem hN
      refine ⟨by omega, fun hl p hp => ?_⟩
      by_cases hpN : p = N
      · rw [hpN]; exact hN
      · exact List.mem_of_mem_erase (b (by omega) p (by omega))
    · rw [List.erase_of_not_mem hN] at a
      exact ⟨Nat.le_succ_of_le a, fun hl => absurd hl (by omega)⟩

/-- What a sync test knows at the start of a call, besides the timeline invariant. -/
structure Ready (s : SyncTest) (gh : Ghost) : Prop where
  nq : s.sync.queues.length = s.numPlayers
  asked : AllAsked s.sync.queues s.sync.currentFrame
  lu : ∀ p, p < s.numPlayers → (gh.specs p).lastUser = s.sync.currentFrame - 1 ∧
    s.sync.currentFrame ≤ ((gh.specs p).vals.length : Int)
  liNodup : (s.localInputs.map (·.1)).Nodup
  liOk : ∀ x ∈ s.localInputs, x.1 < s.numPlayers ∧ x.2.frame = s.sync.currentFrame
  cd : 0 < s.checkDistance

theorem Ready.all_in {s : SyncTest} {gh : Ghost} (hr : Ready s gh) (hlen : s.localInputs.length = s.numPlayers)
    (p : Nat) (hp : p < s.numPlayers) : ∃ inp, (p, inp) ∈ s.localInputs := by
  have hmem := (pigeon s.numPlayers (s.localInputs.map (·.1)) hr.liNodup
    (fun h hh => by obtain ⟨x, hx, rfl⟩ := List.mem_map.mp hh; exact (hr.liOk x hx).1)).2
    (by rw [List.length_map]; exact hlen) p hp
  obtain ⟨⟨a, b⟩, hx, rfl⟩ := List.mem_map.mp hmem
  exact ⟨b, hx⟩

/-- Every stream reaches the current frame, so the rows below it do not change when streams grow. -/
theorem Ready.rowOf_grows {s : SyncTest} {gh gh' : Ghost} (hr : Ready s gh)
    (hg : ∀ p, PrefixOf (gh.specs p).vals (gh'.specs p).vals) (f : Nat)
    (hf : (f : Int) < s.sync.currentFrame) : rowOf gh' s.numPlayers f = rowOf gh s.numPlayers f :=
  rowOf_congr gh gh' _ f fun p hp => (hg p).2 f (by have := (hr.lu p hp).2; omega)

theorem TInv_statuses {pr sy st st' gh t0 reqs} (h : TInv pr sy st gh t0 reqs) (hl : st'.length = st.length)
    (hc : ∀ cs ∈ st', cs.disconnected = false) : TInv pr sy st' gh t0 reqs :=
  ⟨⟨h.sync.cur, hl.trans h.sync.nq, hc, h.sync.all⟩, h.exec, h.rows⟩

theorem saveBeforeAdvance_fields (s s' : SyncTest) (reqs reqs' : List Request)
    (h : s.saveBeforeAdvance reqs = .ok (s', reqs')) :
    ∃ l, s' = { s with sync := { s.sync with lastSavedFrame := l } } ∧
      (0 < s.checkDistance → reqs' = reqs ++ [.save s.sync.currentFrame]) := by
  unfold SyncTest.saveBeforeAdvance at h
  by_cases hcd : s.checkDistance > 0
  · rw [if_pos hcd] at h
    obtain ⟨⟨sy, rq⟩, hs, h⟩ := bind_ok h
    obtain ⟨rfl, rfl⟩ := pure_ok_pair h
    obtain ⟨_, rfl, rfl⟩ := SyncLayer.saveCurrentState_ok hs
    exact ⟨_, rfl, fun _ => rfl⟩
  · rw [if_neg hcd] at h
    obtain ⟨rfl, rfl⟩ := pure_ok_pair h
    exact ⟨s.sync.lastSavedFrame, rfl, fun h => absurd h hcd⟩

theorem finishFrame_ok (s s' : SyncTest) (pre : List Request) (r : Except GgrsError (List Request))
    (hf : s.finishFrame pre = .ok (s', r)) :
    (r = .error .invalidRequest ∧ s' = s) ∨
    (s.numPlayers = s.localInputs.length ∧ ∃ sy1 s2 reqs2 sy3 inputs sy4,
      SyncTest.addLocalInputs s.localInputs s.sync = .ok sy1 ∧
      ({ s with sync := sy1, localInputs := [] } : SyncTest).saveBeforeAdvance pre = .ok (s2, reqs2) ∧
      s2.sync.synchronizedInputs s2.pred s2.dummyConnectStatus = .ok (sy3, inputs) ∧
      sy3.advanceFrame.setLastConfirmedFrame (sy3.advanceFrame.currentFrame - s2.checkDistance) false = .ok sy4 ∧
      s' = { s2 with sync := sy4, dummyConnectStatus :=
        s2.dummyConnectStatus.map fun c => { c with lastFrame := sy4.currentFrame } } ∧
      r = .ok (reqs2 ++ [.advance inputs])) := by
  unfold SyncTest.finishFrame at hf
  by_cases hnp : s.numPlayers = s.localInputs.length
  · rw [if_neg (by simpa using hnp)] at hf
    simp only [bind_eq_ok, pure_eq_ok, Prod.exists, Prod.mk.injEq] at hf
    obtain ⟨sy1, h1, s2, reqs2, h2, sy3, inputs, h3, sy4, h4, rfl, rfl⟩ := hf
    exact Or.inr ⟨hnp, sy1, s2, reqs2, sy3, inputs, sy4, h1, h2, h3, h4, rfl, rfl⟩
  · rw [if_pos (by simpa using hnp)] at hf
    simp only [pure_eq_ok, Prod.mk.injEq] at hf
    exact Or.inl ⟨hf.2.symm, hf.1.symm⟩

theorem addLocalInputs_shape : ∀ (l : List (Nat × PlayerInput)) (sy sy' : SyncLayer),
    SyncTest.addLocalInputs l sy = .ok sy' → ∃ qs, sy' = { sy with queues := qs }
  | [], sy, _, h => by
    cases h
    exact ⟨sy.queues, rfl⟩
  | (hd, inp) :: l, sy, sy', h => by
    simp only [SyncTest.addLocalInputs, bind_eq_ok, Prod.exists] at h
    obtain ⟨sy1, fr, h1, h⟩ := h
    obtain ⟨_, _, q', _, rfl⟩ := SyncLayer.addLocalInput_ok h1
    obtain ⟨qs, rfl⟩ := addLocalInputs_shape l _ sy' h
    exact ⟨qs, rfl⟩

/-- The second half of a call: with every player's input in, the new frame is simulated on the full row. -/
theorem finishFrame_spec (s s' : SyncTest) (gh : Ghost) (t0 : TLState) (pre : List Request)
    (r : Except GgrsError (List Request))
    (h : TInv s.pred s.sync s.dummyConnectStatus gh t0 pre) (hr : Ready s gh)
    (hrows : ∀ f : Nat, (f : Int) < s.sync.currentFrame → (execReqs t0 pre).R f = rowOf gh s.numPlayers f)
    (hf : s.finishFrame pre = .ok (s', r)) :
    (r = .error .invalidRequest ∧ s' = s) ∨
    ∃ (gh' : Ghost) (reqs' : List Request) (sy' : SyncLayer) (st' : List ConnStatus), r = .ok reqs' ∧
      s' = { s with sync := sy', dummyConnectStatus := st', localInputs := [] } ∧
      reqs' = pre ++ [.save s.sync.currentFrame, .advance (rowOf gh' s.numPlayers s.sync.currentFrame.toNat)] ∧
      TInv s.pred sy' st' gh' t0 reqs' ∧ Ready s' gh' ∧ sy'.currentFrame = s.sync.currentFrame + 1 ∧
      (∀ p, p < sy'.queues.length → (rget sy'.queues p).firstIncorrectFrame = NULL_FRAME) ∧
      (∀ p, PrefixOf (gh.specs p).vals (gh'.specs p).vals) ∧ sy'.cells = s.sync.cells ∧
      (∀ f : Nat, (f : Int) < sy'.currentFrame → (execReqs t0 reqs').R f = rowOf gh' s.numPlayers f) := by
  rcases finishFrame_ok s s' pre r hf with herr | ⟨hlen, sy1, s2, reqs2, sy3, inputs, sy4, hadd, hsb, hsim, hset, rfl, rfl⟩
  · exact Or.inl herr
  right
  obtain ⟨gh1, hinv1, _, _, _, hq1, _, _, hgrow1, _, _, hin1⟩ :=
    addLocalInputs_spec s.pred s.dummyConnectStatus t0 pre s.localInputs s.sync sy1 gh h hr.asked
      (fun p hp => Or.inl (hr.lu p (hr.nq ▸ hp)).1) hadd
  obtain ⟨qs1, rfl⟩ := addLocalInputs_shape _ _ _ hadd
  have hall : ∀ p, p < s.numPlayers → Submitted (gh1.specs p) s.sync.currentFrame := fun p hp =>
    (hr.all_in hlen.symm p hp).elim fun inp hx => hin1 p inp hx (hr.nq.symm ▸ hp)
  obtain ⟨l2, rfl, hsave⟩ := saveBeforeAdvance_fields _ s2 pre reqs2 hsb
  obtain rfl := hsave hr.cd
  obtain ⟨_, hcl3, _⟩ := syncInputs_fields _ _ _ _ _ hsim
  obtain ⟨gh3, (hrow : inputs = rowOf gh1 s.numPlayers s.sync.currentFrame.toNat), hsp3, hinv3,
      (hcur3 : sy3.advanceFrame.currentFrame = s.sync.currentFrame + 1), hN3, hask3, hclean3, hrows3⟩ :=
    TInv_simulate_full s.pred { s.sync with queues := qs1, lastSavedFrame := l2 } sy3 sy3 s.dummyConnectStatus gh1 t0 pre
      [.save s.sync.currentFrame] inputs s.numPlayers (hinv1.congr rfl rfl rfl) hsim
      (fun r hr => ⟨_, List.mem_singleton.mp hr⟩) rfl rfl (hq1.trans hr.nq)
      (fun p hp => Int.lt_iff_add_one_le.mpr (hall p hp).2)
      (fun f hf => by rw [hr.rowOf_grows hgrow1 f hf]; exact hrows f hf)
  have hR : rowOf gh3 s.numPlayers = rowOf gh1 s.numPlayers := rowOf_specs gh1 gh3 _ hsp3
  obtain ⟨hinv4, hask4, hcur4, hql4, hcl4, hfi4⟩ :=
    setLastConfirmed_sync s.pred sy3.advanceFrame sy4 s.dummyConnectStatus gh3 t0 _ _ false hinv3 hask3
      (fun p hp => by
        rw [lastAdded_of_QI (hinv3.sync.all p hp), hsp3, hcur3]
        have := (hall p (hN3 ▸ hp)).2
        have := hr.cd
        show s.sync.currentFrame + 1 - (s.checkDistance : Int) - 1 < _
        omega) hset
  have hcur4' : sy4.currentFrame = s.sync.currentFrame + 1 := hcur4.trans hcur3
  refine ⟨gh3, _, sy4, _, rfl, rfl, by rw [hrow, hR]; simp only [List.append_assoc, List.cons_append, List.nil_append],
    TInv_statuses hinv4 (List.length_map _) (fun cs hcs => ?_),
    ⟨hql4.trans hN3, hask4, fun p hp => ?_, List.nodup_nil, nofun, hr.cd⟩, hcur4',
    fun p hp => (hfi4 p hp).trans (hclean3 p (hql4 ▸ hp)), fun p => by rw [hsp3]; exact hgrow1 p,
    hcl4.trans hcl3, fun f hf => ?_⟩
  · obtain ⟨c0, hc0m, rfl⟩ := List.mem_map.mp hcs
    exact hinv4.sync.conn c0 hc0m
  · obtain ⟨a, b⟩ := hall p hp
    show (gh3.specs p).lastUser = sy4.currentFrame - 1 ∧ sy4.currentFrame ≤ _
    rw [hsp3, hcur4', a]
    exact ⟨(Int.add_sub_cancel _ 1).symm, b⟩
  · rw [hR]
    exact hrows3 f (hcur4' ▸ hf)

end Ggrs

namespace Ggrs
open InputQueue

theorem finishFrame_fields (s s' : SyncTest) (pre : List Request) (r : Except GgrsError (List Request))
    (hf : s.finishFrame pre = .ok (s', r)) :
    s'.checkDistance = s.checkDistance ∧ ∀ e, r = .error e → e = .invalidRequest := by
  rcases finishFrame_ok s s' pre r hf with ⟨rfl, rfl⟩ | ⟨_, sy1, s2, reqs2, sy3, inputs, sy4, _, hsb, _, _, rfl, rfl⟩
  · exact ⟨rfl, fun e he => by cases he; rfl⟩
  · obtain ⟨l2, rfl, _⟩ := saveBeforeAdvance_fields _ s2 pre reqs2 hsb
    exact ⟨rfl, nofun⟩

theorem verifyAndRollback_ok (s s1 : SyncTest) (cur : Frame) (res : Except GgrsError (List Request))
    (hv : s.verifyAndRollback cur = .ok (s1, res)) :
    ∃ sa mis, SyncTest.checkFrames (cur - s.checkDistance) (s.checkDistance + 1) 0 s [] = .ok (sa, mis) ∧
      ((mis ≠ [] ∧ s1 = sa ∧ res = .error (.mismatchedChecksum cur mis)) ∨
       (mis = [] ∧ ∃ reqs, sa.adjustGamestate (sa.sync.currentFrame - sa.checkDistance) [] = .ok (s1, reqs) ∧
         res = .ok reqs)) := by
  simp only [SyncTest.verifyAndRollback, bind_eq_ok, Prod.exists] at hv
  obtain ⟨sa, mis, hcf, hv⟩ := hv
  refine ⟨sa, mis, hcf, ?_⟩
  cases mis with
  | nil =>
    simp only [List.isEmpty_nil, Bool.not_true, Bool.false_eq_true, if_false, bind_eq_ok, pure_eq_ok, Prod.exists,
      Prod.mk.injEq] at hv
    obtain ⟨sb, reqs, hadj, rfl, rfl⟩ := hv
    exact Or.inr ⟨rfl, reqs, hadj, rfl⟩
  | cons a as =>
    simp only [List.isEmpty_cons, Bool.not_false, if_true, pure_eq_ok, Prod.mk.injEq] at hv
    exact Or.inl ⟨List.cons_ne_nil _ _, hv.1.symm, hv.2.symm⟩

theorem advanceFrame_ok (s s' : SyncTest) (r : Except GgrsError (List Request)) (ha : s.advanceFrame = .ok (s', r)) :
    ((decide (s.checkDistance > 0) && decide (s.sync.currentFrame > (s.checkDistance : Int))) = true ∧
      ∃ s1 res, s.verifyAndRollback s.sync.currentFrame = .ok (s1, res) ∧
        ((∃ e, res = .error e ∧ s' = s1 ∧ r = .error e) ∨
         ∃ reqs, res = .ok reqs ∧ s1.finishFrame reqs = .ok (s', r))) ∨
    ((decide (s.checkDistance > 0) && decide (s.sync.currentFrame > (s.checkDistance : Int))) = false ∧
      s.finishFrame [] = .ok (s', r)) := by
  unfold SyncTest.advanceFrame at ha
  by_cases hwarm : (decide (s.checkDistance > 0) && decide (s.sync.currentFrame > (s.checkDistance : Int))) = true
  · rw [if_pos hwarm] at ha
    simp only [bind_eq_ok, Prod.exists] at ha
    obtain ⟨s1, res, hv, ha⟩ := ha
    refine Or.inl ⟨hwarm, s1, res, hv, ?_⟩
    cases res with
    | error e =>
      simp only [pure_eq_ok, Prod.mk.injEq] at ha
      exact Or.inl ⟨e, rfl, ha.1.symm, ha.2.symm⟩
    | ok reqs => exact Or.inr ⟨reqs, rfl, ha⟩
  · rw [if_neg hwarm] at ha
    exact Or.inr ⟨by simpa using hwarm, ha⟩

/-- The first half of a call: the comparison finds nothing, then the rollback re-simulates the last
`check_distance` frames on the same rows. -/
theorem verifyAndRollback_spec {G : Type} (step : G → List (Input × InputStatus) → G) (g0 : G)
    (csf : G → Option Nat) (s s1 : SyncTest) (gh : Ghost) (t0 : TLState)
    (res : Except GgrsError (List Request))
    (h : TInv s.pred s.sync s.dummyConnectStatus gh t0 []) (hr : Ready s gh)
    (hclean : ∀ p, p < s.sync.queues.length → (rget s.sync.queues p).firstIncorrectFrame = NULL_FRAME)
    (hrows : ∀ f : Nat, (f : Int) < s.sync.currentFrame → t0.R f = rowOf gh s.numPlayers f)
    (hh : HistOk step g0 csf s.checksumHistory (rowOf gh s.numPlayers) s.sync.currentFrame)
    (hc : CellsOk step g0 csf s.sync.cells (rowOf gh s.numPlayers)) (hn : 0 < s.sync.cells.length)
    (htle : ∀ i, i < s.sync.cells.length → (rget s.sync.cells i).frame ≤ s.sync.currentFrame)
    (hv : s.verifyAndRollback s.sync.currentFrame = .ok (s1, res)) :
    ∃ (gh' : Ghost) (L : List Request) (qs : List InputQueue) (l : Frame) (hist : List (Int × Option Nat)),
      res = .ok ([.load (s.sync.currentFrame - s.checkDistance)] ++ L) ∧
      s1 = { s with sync := { s.sync with queues := qs, lastSavedFrame := l }, checksumHistory := hist } ∧
      STShape (rowOf gh s.numPlayers) 0 (s.sync.currentFrame - s.checkDistance) s.checkDistance L ∧
      0 ≤ s.sync.currentFrame - (s.checkDistance : Int) ∧
      (rget s.sync.cells ((s.sync.currentFrame - (s.checkDistance : Int)).toNat % s.sync.cells.length)).frame =
        s.sync.currentFrame - s.checkDistance ∧
      TInv s.pred { s.sync with queues := qs, lastSavedFrame := l } s.dummyConnectStatus gh' t0
        ([.load (s.sync.currentFrame - s.checkDistance)] ++ L) ∧
      gh'.specs = gh.specs ∧ qs.length = s.numPlayers ∧ AllAsked qs s.sync.currentFrame ∧
      (∀ p, p < qs.length → (rget qs p).firstIncorrectFrame = NULL_FRAME) ∧
      HistOk step g0 csf hist (rowOf gh s.numPlayers) s.sync.currentFrame ∧
      (∀ f : Nat, (f : Int) < s.sync.currentFrame →
        (execReqs t0 ([.load (s.sync.currentFrame - s.checkDistance)] ++ L)).R f = rowOf gh s.numPlayers f) := by
  obtain ⟨sa, mis, hcf, hv⟩ := verifyAndRollback_ok s s1 _ res hv
  obtain ⟨hist, rfl⟩ := checkFrames_shape _ _ _ _ _ _ _ hcf
  obtain ⟨rfl, hh1, _⟩ :=
    checkFrames_none step g0 csf (rowOf gh s.numPlayers) _ s.sync.currentFrame _ 0 s _ [] mis hh hc hn htle hcf
  obtain ⟨hne, _⟩ | ⟨_, reqs1, hadj, rfl⟩ := hv
  · exact absurd rfl hne
  obtain ⟨qs, l, rfl⟩ := st_adjust_shape _ s1 _ _ _ hadj
  obtain ⟨gh', hinv', hsp', _, _, hN', _, hrows', hask', hclean', h0, _, htag, L, rfl, _, hst⟩ :=
    st_adjust_spec { s with checksumHistory := hist } _ (s.sync.currentFrame - (s.checkDistance : Int)) t0 [] reqs1 gh
      s.numPlayers h hr.nq
      (fun p hp => (hr.lu p hp).2) hclean hrows hadj
  have hcnt : (s.sync.currentFrame - (s.sync.currentFrame - (s.checkDistance : Int))).toNat = s.checkDistance := by
    omega
  rw [hcnt] at hst
  exact ⟨gh', L, qs, l, hist, rfl, rfl, hst, h0, htag, hinv', hsp', hN', hask', hclean', hh1, hrows'⟩

end Ggrs

namespace Ggrs
open InputQueue

def SyncTest.withCells (s : SyncTest) (cells : List Cell) : SyncTest := { s with sync := { s.sync with cells := cells } }

/-- Session, cells and game together. The ghost and the game's rows at the start of the call, `R0`, are
existential: every call replaces both. -/
structure STInv {G : Type} (step : G → List (Input × InputStatus) → G) (g0 : G) (csf : G → Option Nat)
    (s : SyncTest) (x : GS G) : Prop where
  ncells : 0 < s.sync.cells.length
  xcur : x.cur = s.sync.currentFrame
  ex : ∃ (gh : Ghost) (R0 : Nat → List (Input × InputStatus)),
    TInv s.pred s.sync s.dummyConnectStatus gh ⟨s.sync.currentFrame, R0⟩ [] ∧
    (∀ f : Nat, (f : Int) < s.sync.currentFrame → R0 f = rowOf gh s.numPlayers f) ∧
    Ready s gh ∧
    (∀ p, p < s.sync.queues.length → (rget s.sync.queues p).firstIncorrectFrame = NULL_FRAME) ∧
    GW step g0 csf (rowOf gh s.numPlayers) s.sync.cells x s.sync.currentFrame ∧
    HistOk step g0 csf s.checksumHistory (rowOf gh s.numPlayers) s.sync.currentFrame

theorem TInv_restart (pr : Predictor) (sy : SyncLayer) (st : List ConnStatus) (gh : Ghost) (t0 : TLState)
    (reqs : List Request) (h : TInv pr sy st gh t0 reqs) :
    TInv pr sy st gh ⟨sy.currentFrame, (execReqs t0 reqs).R⟩ [] :=
  ⟨h.sync, rfl, h.rows⟩

theorem HistOk_congr {G : Type} (step : G → List (Input × InputStatus) → G) (g0 : G) (csf : G → Option Nat)
    (hist : List (Int × Option Nat)) (Rt Rt' : Nat → List (Input × InputStatus)) (cur cur' : Int)
    (h : HistOk step g0 csf hist Rt cur) (hle : cur ≤ cur')
    (hag : ∀ f : Nat, (f : Int) < cur → Rt' f = Rt f) : HistOk step g0 csf hist Rt' cur' := by
  intro f c hl
  obtain ⟨a, b, d⟩ := h f c hl
  refine ⟨a, by omega, ?_⟩
  rw [d, replay_congr step g0 Rt Rt' f.toNat (fun j hj => hag j (by omega))]

theorem GW_finish {G : Type} (step : G → List (Input × InputStatus) → G) (g0 : G) (csf : G → Option Nat)
    (Rt Rt' : Nat → List (Input × InputStatus)) (cells : List Cell) (x : GS G) (cur : Int)
    (h : GW step g0 csf Rt cells x cur) (hx : x.cur = cur) (hn : 0 < cells.length)
    (hag : ∀ f : Nat, (f : Int) < cur → Rt' f = Rt f) :
    GW step g0 csf Rt' (execSWs step csf (cells, x) [.save cur, .advance (Rt' cur.toNat)]).1
      (execSWs step csf (cells, x) [.save cur, .advance (Rt' cur.toNat)]).2 (cur + 1) ∧
    (execSWs step csf (cells, x) [.save cur, .advance (Rt' cur.toNat)]).1.length = cells.length ∧
    (execSWs step csf (cells, x) [.save cur, .advance (Rt' cur.toNat)]).2.cur = cur + 1 := by
  subst hx
  have g1 := GW_congr step g0 csf Rt Rt' _ _ x.cur (x.cur + 1) (GW_save h hn) (Int.le_add_one (Int.le_refl _)) hag
  exact ⟨GW_advance g1 (Int.lt_add_one_iff.mpr (Int.le_refl _)) cells.length, rset_length _ _ _, rfl⟩

theorem finish_world {G : Type} (step : G → List (Input × InputStatus) → G) (g0 : G) (csf : G → Option Nat)
    (s1 s' : SyncTest) (x x1 : GS G) (cells1 : List Cell) (gh1 : Ghost) (t0 : TLState) (pre : List Request)
    (r : Except GgrsError (List Request))
    (h : TInv s1.pred s1.sync s1.dummyConnectStatus gh1 t0 pre) (hr : Ready s1 gh1)
    (hrows : ∀ f : Nat, (f : Int) < s1.sync.currentFrame → (execReqs t0 pre).R f = rowOf gh1 s1.numPlayers f)
    (hw : execSWs step csf (s1.sync.cells, x) pre = (cells1, x1))
    (hg : GW step g0 csf (rowOf gh1 s1.numPlayers) cells1 x1 s1.sync.currentFrame)
    (hx1 : x1.cur = s1.sync.currentFrame) (hl1 : cells1.length = s1.sync.cells.length) (hn : 0 < s1.sync.cells.length)
    (hh : HistOk step g0 csf s1.checksumHistory (rowOf gh1 s1.numPlayers) s1.sync.currentFrame)
    (hf : s1.finishFrame pre = .ok (s', r)) :
    (r = .error .invalidRequest ∧ s' = s1) ∨
    ∃ reqs, r = .ok reqs ∧
      STInv step g0 csf (s'.withCells (execSWs step csf (s'.sync.cells, x) reqs).1) (execSWs step csf (s'.sync.cells, x) reqs).2 := by
  rcases finishFrame_spec s1 s' gh1 t0 pre r h hr hrows hf with
    herr | ⟨gh', reqs', sy', st', hrok, rfl, hreqs', hinv', hr', hcur', hclean', hgrow, hcl', hrows'⟩
  · exact Or.inl herr
  right
  refine ⟨reqs', hrok, ?_⟩
  have hag : ∀ f : Nat, (f : Int) < s1.sync.currentFrame → rowOf gh' s1.numPlayers f = rowOf gh1 s1.numPlayers f :=
    hr.rowOf_grows hgrow
  have hexec : execSWs step csf (sy'.cells, x) reqs' =
      execSWs step csf (cells1, x1) [.save s1.sync.currentFrame, .advance (rowOf gh' s1.numPlayers s1.sync.currentFrame.toNat)] := by
    rw [hreqs', hcl', execSWs_append, hw]
  obtain ⟨g2, l2, c2⟩ := GW_finish step g0 csf (rowOf gh1 s1.numPlayers) (rowOf gh' s1.numPlayers) cells1 x1
    s1.sync.currentFrame hg hx1 (by rw [hl1]; exact hn) hag
  show STInv step g0 csf (SyncTest.withCells _ (execSWs step csf (sy'.cells, x) reqs').1) (execSWs step csf (sy'.cells, x) reqs').2
  rw [hexec]
  rw [← hcur'] at g2 c2
  exact ⟨Nat.lt_of_lt_of_eq hn (l2.trans hl1).symm, c2, gh', (execReqs t0 reqs').R,
    (TInv_restart _ _ _ _ _ _ hinv').congr rfl rfl rfl, hrows', ⟨hr'.nq, hr'.asked, hr'.lu, hr'.liNodup, hr'.liOk, hr'.cd⟩,
    hclean', g2, HistOk_congr step g0 csf _ _ _ _ _ hh (by show _ ≤ sy'.currentFrame; omega) hag⟩

end Ggrs

namespace Ggrs
open InputQueue

/-- One call of `advance_frame` on a deterministic game: either the inputs were incomplete (`InvalidRequest`,
game untouched) or the game executes the returned requests; never `MismatchedChecksum`. -/
theorem STInv_tick {G : Type} (step : G → List (Input × InputStatus) → G) (g0 : G) (csf : G → Option Nat)
    (s s' : SyncTest) (x : GS G) (r : Except GgrsError (List Request))
    (h : STInv step g0 csf s x) (ha : s.advanceFrame = .ok (s', r)) :
    (r = .error .invalidRequest ∧ STInv step g0 csf s' x) ∨
    ∃ reqs, r = .ok reqs ∧
      STInv step g0 csf (s'.withCells (execSWs step csf (s'.sync.cells, x) reqs).1) (execSWs step csf (s'.sync.cells, x) reqs).2 := by
  obtain ⟨gh, R0, hinv, hrows0, hr, hclean, hg, hh⟩ := h.ex
  have hn := h.ncells
  rcases advanceFrame_ok s s' r ha with ⟨hwarm, s1, res, hv, ha⟩ | ⟨_, ha⟩
  · have hcells : CellsOk step g0 csf s.sync.cells (rowOf gh s.numPlayers) := fun i hi h0 => (hg.cells i hi h0).2.2
    have htle : ∀ i, i < s.sync.cells.length → (rget s.sync.cells i).frame ≤ s.sync.currentFrame := by
      intro i hi
      by_cases h0 : 0 ≤ (rget s.sync.cells i).frame
      · exact (hg.cells i hi h0).1
      · have := hinv.sync.cur; omega
    obtain ⟨gh', L, qs, l, hist, rfl, rfl, hst, hf0, htag, hinv1, hsp1, hN1, hask1, hclean1, hh1, hrows1⟩ :=
      verifyAndRollback_spec step g0 csf s s1 gh ⟨s.sync.currentFrame, R0⟩ res hinv hr hclean hrows0 hh hcells hn htle hv
    obtain ⟨e, he, _⟩ | ⟨_, he, ha⟩ := ha
    · cases he
    cases he
    have hr1 : Ready { s with sync := { s.sync with queues := qs, lastSavedFrame := l }, checksumHistory := hist } gh' :=
      ⟨hN1, hask1, fun p hp => by rw [hsp1]; exact hr.lu p hp, hr.liNodup, hr.liOk, hr.cd⟩
    rw [← rowOf_specs gh gh' _ hsp1] at hst hh1 hrows1 hg
    have hwcd : (s.checkDistance : Int) < s.sync.currentFrame := by
      simp only [Bool.and_eq_true, decide_eq_true_eq] at hwarm; exact hwarm.2
    obtain ⟨ga, la, ca⟩ := GW_load step g0 csf (rowOf gh' s.numPlayers) s.sync.cells x s.sync.currentFrame
      (s.sync.currentFrame - (s.checkDistance : Int)) hg hn hf0 (by rw [h.xcur]; omega) htag
    obtain ⟨gb, lb, cb⟩ := GW_resim step g0 csf (rowOf gh' s.numPlayers) s.sync.currentFrame s.checkDistance 0
      _ _ L ga (by rw [la]; exact hn) (by rw [ca]; omega) (by rw [ca]; exact hst)
    rcases finish_world step g0 csf _ s' x _ _ gh' ⟨s.sync.currentFrame, R0⟩ _ r hinv1 hr1 hrows1 rfl gb
      (cb.trans (by rw [ca]; show _ = s.sync.currentFrame; omega)) (lb.trans (by rw [la])) hn hh1 ha with ⟨he, rfl⟩ | hok
    · exact Or.inl ⟨he, hn, h.xcur, gh', _, TInv_restart _ _ _ _ _ _ hinv1, hrows1, hr1, hclean1, hg, hh1⟩
    · exact Or.inr hok
  · rcases finish_world step g0 csf s s' x x s.sync.cells gh ⟨s.sync.currentFrame, R0⟩ [] r hinv hr
      hrows0 rfl hg h.xcur rfl hn hh ha with ⟨he, rfl⟩ | hok
    · exact Or.inl ⟨he, h⟩
    · exact Or.inr hok

end Ggrs

namespace Ggrs
open InputQueue

theorem STInv_addInput {G : Type} (step : G → List (Input × InputStatus) → G) (g0 : G) (csf : G → Option Nat)
    (s : SyncTest) (x : GS G) (handle : Nat) (v : Input) (h : STInv step g0 csf s x) :
    STInv step g0 csf (s.addLocalInput handle v).1 x := by
  unfold SyncTest.addLocalInput
  by_cases hh : handle ≥ s.numPlayers
  · rw [if_pos hh]; exact h
  rw [if_neg hh]
  obtain ⟨gh, R0, hinv, hrows, hr, hclean, hg, hhist⟩ := h.ex
  refine ⟨h.ncells, h.xcur, gh, R0, hinv, hrows, ⟨hr.nq, hr.asked, hr.lu, ?_, ?_, hr.cd⟩, hclean, hg, hhist⟩
  · show ((s.localInputs.filter (·.1 != handle) ++ [(handle, (⟨s.sync.currentFrame, v⟩ : PlayerInput))]).map (·.1)).Nodup
    rw [List.map_append, List.nodup_append]
    refine ⟨hr.liNodup.sublist (List.filter_sublist.map _), List.pairwise_singleton _ _, fun a ha b hb e => ?_⟩
    obtain ⟨y, hy, rfl⟩ := List.mem_map.mp ha
    rw [List.mem_singleton.mp hb] at e
    exact bne_iff_ne.mp (List.mem_filter.mp hy).2 e
  · intro y hy
    rcases List.mem_append.mp hy with h1 | h1
    · exact hr.liOk y (List.mem_filter.mp h1).1
    · rw [List.mem_singleton.mp h1]
      exact ⟨Nat.lt_of_not_le hh, rfl⟩

/-- A queue nothing was ever added to: it implements an empty stream, whatever its delay. -/
def Fresh (pr : Predictor) (Tp : Nat → Input) (q : InputQueue) : Prop :=
  q.firstIncorrectFrame = NULL_FRAME ∧ ∃ sp : QSpec, QI pr q sp [] Tp 0 ∧ sp.vals = [] ∧ sp.lastUser = -1

theorem Fresh_setDelay {pr : Predictor} {Tp : Nat → Input} {q q' : InputQueue} {d : Nat} {fl : List PlayerInput}
    (h : Fresh pr Tp q) (hq : q.setFrameDelay d = .ok (q', fl)) : Fresh pr Tp q' := by
  obtain ⟨hfi, sp, hqi, hv, hlu⟩ := h
  obtain ⟨hqi', _, _⟩ := QI_setDelay pr q q' sp [] Tp 0 d fl hqi (fun h0 => absurd h0 (Int.lt_irrefl 0)) hq
  have hsd : (sp.setDelay d).1 = { sp with delay := d } :=
    congrArg Prod.fst (QSpec.setDelay_empty d (by rw [hv]; rfl))
  refine ⟨?_, { sp with delay := d }, hsd ▸ hqi', hv, hlu⟩
  -- nothing was added, so the delay is only noted
  have hla : q.lastAddedFrame = NULL_FRAME := by rw [lastAdded_of_QI hqi, hv]; rfl
  rw [InputQueue.setFrameDelay_blank d hla] at hq
  rw [← (Prod.mk.inj (Except.ok.inj hq)).1]
  exact hfi

theorem setDelays_fresh (pr : Predictor) (Tp : Nat → Nat → Input) (delay : Nat) : ∀ (l : List Nat) (sy sy' : SyncLayer),
    l.foldlM (fun sy i => do let (sy, _) ← sy.setFrameDelay i delay; pure sy) sy = .ok sy' →
    (∀ p, p < sy.queues.length → Fresh pr (Tp p) (rget sy.queues p)) →
    ∃ qs, sy' = { sy with queues := qs } ∧ qs.length = sy.queues.length ∧
      ∀ p, p < qs.length → Fresh pr (Tp p) (rget qs p)
  | [], sy, sy', h, hall => by
    rw [List.foldlM_nil] at h
    obtain rfl := pure_ok h
    exact ⟨sy.queues, rfl, rfl, hall⟩
  | i :: l, sy, sy', h, hall => by
    rw [List.foldlM_cons] at h
    obtain ⟨sy1, hstep, h⟩ := bind_ok h
    obtain ⟨⟨sy2, fills⟩, hsd, hstep⟩ := bind_ok hstep
    obtain rfl := pure_ok hstep
    obtain ⟨_, q', hq, rfl⟩ := SyncLayer.setFrameDelay_ok hsd
    obtain ⟨qs, rfl, hlen, hall'⟩ := setDelays_fresh pr Tp delay l _ sy' h fun p hp => by
      rw [rset_length] at hp
      show Fresh pr (Tp p) (rget (rset sy.queues i q') p)
      by_cases hpi : p = i
      · rw [hpi, rget_rset_eq _ _ _ (hpi ▸ hp)]
        exact Fresh_setDelay (hall i (hpi ▸ hp)) hq
      · rw [rget_rset_ne _ _ _ _ (Ne.symm hpi)]
        exact hall p hp
    exact ⟨qs, rfl, hlen.trans (rset_length _ _ _), hall'⟩

/-- A freshly built sync test (any player count, window, delay; check distance ≥ 1) next to a game at `g0`. -/
theorem STInv_new {G : Type} (step : G → List (Input × InputStatus) → G) (g0 : G) (csf : G → Option Nat)
    (N mp cd delay : Nat) (pr : Predictor) (s : SyncTest) (R : Nat → List (Input × InputStatus))
    (cellG : Nat → G) (tag : Nat → Int) (hcd : 0 < cd)
    (hnew : SyncTest.new N mp cd delay pr = .ok s) : STInv step g0 csf s ⟨0, R, g0, cellG, tag⟩ := by
  unfold SyncTest.new at hnew
  obtain ⟨sy, hfold, hnew⟩ := bind_ok hnew
  obtain rfl := pure_ok hnew
  let Tp : Nat → Nat → Input := fun p f => ((R f).getD p default).1
  obtain ⟨qs, rfl, hql, hall⟩ := setDelays_fresh pr Tp delay _ _ sy hfold fun p hp => by
    have hp : p < N := by rw [← List.length_replicate (n := N) (a := InputQueue.new)]; exact hp
    have : rget (SyncLayer.new N mp).queues p = InputQueue.new := by
      simp [SyncLayer.new, rget, List.getD_eq_getElem?_getD, hp]
    rw [this]
    exact ⟨rfl, {}, QI_new pr (Tp p), rfl, rfl⟩
  have hql : qs.length = N := hql.trans List.length_replicate
  let specs : Nat → QSpec := fun p => if h : p < qs.length then Classical.choose (hall p h).2 else {}
  have hspecs : ∀ p (hp : p < qs.length), QI pr (rget qs p) (specs p) [] (Tp p) 0 ∧ (specs p).vals = [] ∧
      (specs p).lastUser = -1 := fun p hp => by
    simp only [specs, dif_pos hp]
    exact Classical.choose_spec (hall p hp).2
  refine ⟨by show 0 < (List.replicate (mp + 1) _).length; rw [List.length_replicate]; exact Nat.succ_pos mp, rfl,
    ⟨specs, fun _ => [], Tp⟩, R, ⟨⟨Int.le_refl _, List.length_replicate.trans hql.symm, fun cs hcs => ?_,
      fun p hp => (hspecs p hp).1⟩, rfl, fun _ _ _ => rfl⟩, fun f hf => absurd hf (Int.not_lt.mpr (Int.natCast_nonneg f)),
    ⟨hql, fun p _ h0 => absurd h0 (Int.lt_irrefl 0), fun p hp => ?_, List.nodup_nil, nofun, hcd⟩,
    fun p hp => (hall p hp).1,
    ⟨Int.le_refl _, Int.le_refl _, fun f hf => absurd hf (Int.not_lt.mpr (Int.natCast_nonneg f)), rfl, fun i hi h0 => ?_⟩,
    fun f c hl => nomatch hl⟩
  · rw [List.eq_of_mem_replicate hcs]
  · obtain ⟨_, hv, hlu⟩ := hspecs p (hql ▸ hp)
    show (specs p).lastUser = (0 : Int) - 1 ∧ (0 : Int) ≤ _
    rw [hlu, hv]
    exact ⟨rfl, Int.le_refl _⟩
  · -- no cell has been written
    have hi : i < mp + 1 := by rw [← List.length_replicate (n := mp + 1) (a := ({} : Cell))]; exact hi
    have : (rget (List.replicate (mp + 1) ({} : Cell)) i).frame = NULL_FRAME := by
      simp [rget, List.getD_eq_getElem?_getD, hi]
    exact absurd (this ▸ h0) (by decide)

/-- Steps of the world: the user adds an input; `advance_frame` fails (the game does nothing);
`advance_frame` returns requests and the game executes them, its saves reaching the cells. -/
inductive STStep {G : Type} (step : G → List (Input × InputStatus) → G) (csf : G → Option Nat) :
    (SyncTest × GS G) → (SyncTest × GS G) → Prop
  | addInput (s : SyncTest) (x : GS G) (handle : Nat) (v : Input) : STStep step csf (s, x) ((s.addLocalInput handle v).1, x)
  | tickErr (s s' : SyncTest) (x : GS G) (e : GgrsError) : s.advanceFrame = .ok (s', .error e) → STStep step csf (s, x) (s', x)
  | tickOk (s s' : SyncTest) (x : GS G) (reqs : List Request) : s.advanceFrame = .ok (s', .ok reqs) →
      STStep step csf (s, x)
        (s'.withCells (execSWs step csf (s'.sync.cells, x) reqs).1, (execSWs step csf (s'.sync.cells, x) reqs).2)

inductive STStar {G : Type} (step : G → List (Input × InputStatus) → G) (csf : G → Option Nat) :
    (SyncTest × GS G) → (SyncTest × GS G) → Prop
  | refl (w) : STStar step csf w w
  | step (a b c) : STStar step csf a b → STStep step csf b c → STStar step csf a c

theorem STInv_step {G : Type} (step : G → List (Input × InputStatus) → G) (g0 : G) (csf : G → Option Nat)
    (a b : SyncTest × GS G) (h : STInv step g0 csf a.1 a.2) (hs : STStep step csf a b) : STInv step g0 csf b.1 b.2 := by
  cases hs with
  | addInput s x handle v => exact STInv_addInput step g0 csf s x handle v h
  | tickErr s s' x e ha =>
    rcases STInv_tick step g0 csf s s' x _ h ha with ⟨_, h'⟩ | ⟨reqs, hr, _⟩
    · exact h'
    · cases hr
  | tickOk s s' x reqs ha =>
    rcases STInv_tick step g0 csf s s' x _ h ha with ⟨hr, _⟩ | ⟨reqs', hr, h'⟩
    · cases hr
    · cases hr; exact h'

theorem STInv_run {G : Type} (step : G → List (Input × InputStatus) → G) (g0 : G) (csf : G → Option Nat)
    (a b : SyncTest × GS G) (h : STInv step g0 csf a.1 a.2) (hr : STStar step csf a b) : STInv step g0 csf b.1 b.2 := by
  induction hr with
  | refl => exact h
  | step b c _ hs ih => exact STInv_step step g0 csf b c ih hs

end Ggrs

namespace Ggrs

theorem advanceFrame_cd0 (s s' : SyncTest) (r : Except GgrsError (List Request))
    (h0 : s.checkDistance = 0) (ha : s.advanceFrame = .ok (s', r)) :
    s'.checkDistance = 0 ∧ ∀ e, r = .error e → e = .invalidRequest := by
  rcases advanceFrame_ok s s' r ha with ⟨hwarm, _⟩ | ⟨_, ha⟩
  · rw [h0] at hwarm
    cases hwarm
  · obtain ⟨hcd, herr⟩ := finishFrame_fields s s' [] r ha
    exact ⟨hcd.trans h0, herr⟩

theorem cd0_run {G : Type} (step : G → List (Input × InputStatus) → G) (csf : G → Option Nat)
    (a b : SyncTest × GS G) (h0 : a.1.checkDistance = 0) (hr : STStar step csf a b) : b.1.checkDistance = 0 := by
  induction hr with
  | refl => exact h0
  | step b c _ hs ih =>
    cases hs with
    | addInput s x handle v =>
      show (s.addLocalInput handle v).1.checkDistance = 0
      unfold SyncTest.addLocalInput
      split
      · exact ih
      · exact ih
    | tickErr s s' x e ha => exact (advanceFrame_cd0 s s' _ ih ha).1
    | tickOk s s' x reqs ha => exact (advanceFrame_cd0 s s' _ ih ha).1

end Ggrs
