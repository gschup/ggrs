/-
L-drop (game): the world of `DropWorld.lean` with a deterministic game executing the requests and
its saves reaching the cells. The request-list discipline (`ChkList`) and "game state = serial replay
of its own timeline" do not depend on who is connected: they are taken from `World.lean` and
`Checksums.lean` and put next to the session invariant with dead players.
-/
import GgrsModel.Proofs.DropWorld
import GgrsModel.Proofs.World
import GgrsModel.Proofs.Checksums

namespace Ggrs
open InputQueue

/-- The world invariant with dead players: the session invariant against the game's timeline, and
the request-checking state that matches game and cells. -/
structure WInvD {G : Type} (step : G → List (Input × InputStatus) → G) (g0 : G) (s : P2P) (x : GS G) : Prop where
  sess : ∃ gh st0, SessInvD s gh ⟨x.cur, x.R⟩ [] st0
  ncells : 0 < s.sync.cells.length
  chk : ∃ c, c.cur = s.sync.currentFrame ∧ GInv step g0 s.sync.cells.length x c ∧
    (∀ i, i < s.sync.cells.length → c.tag i = (rget s.sync.cells i).frame) ∧ ModeInv s c

theorem WInvD_tick_core {G : Type} (step : G → List (Input × InputStatus) → G) (g0 : G) (s s' : P2P) (x : GS G)
    (now : Nat) (pre reqs' : List Request) (saves : List (Frame × Option Nat)) (gh : DGhost) (st0 : List ConnStatus) (c c0 : CS)
    (hsess : SessInvD s gh ⟨x.cur, x.R⟩ pre st0) (hn : 0 < s.sync.cells.length)
    (hg : GInv step g0 s.sync.cells.length x c)
    (htags : ∀ i, i < s.sync.cells.length → c.tag i = (rget s.sync.cells i).frame)
    (hl0 : ChkList s.sync.cells.length c pre c0) (hcur0 : c0.cur = s.sync.currentFrame) (hmode : ModeInv s c0)
    (hadv : s.advanceRollbackFrame now pre = .ok (s', reqs'))
    (hsaves : saves.map (·.1) = savedFrames reqs') :
    WInvD step g0 (s'.userExecute saves) (execGs step s.sync.cells.length x reqs') ∧
    (∃ c', ChkList s.sync.cells.length c reqs' c' ∧ c'.cur = s'.sync.currentFrame) ∧
    (s'.sync.currentFrame = s.sync.currentFrame ∨ s'.sync.currentFrame = s.sync.currentFrame + 1) := by
  obtain ⟨_, _, _, _, gh', _, _, hsess', _⟩ := advanceRollbackFrame_specD s s' gh ⟨x.cur, x.R⟩ pre reqs' now st0 hsess hadv
  obtain ⟨c', hlall, hcur', hn', hc', hg', htags', hmode', hstepc, _⟩ :=
    tick_game step g0 s s' x now pre reqs' saves c c0 hn hg htags hl0 hcur0 hmode hadv hsaves
  refine ⟨⟨⟨gh', s'.localConnectStatus, ?_⟩, hn', c', hc', hg', htags', hmode'⟩, ⟨c', hlall, hcur'⟩, hstepc⟩
  obtain ⟨ecur, eR⟩ := execGs_cur_R step s.sync.cells.length x reqs'
  rw [ecur, eR]
  exact SessInvD_userExecute s' gh' _ [] _ saves (SessInvD_rebase s' gh' ⟨x.cur, x.R⟩ reqs' _ hsess')

theorem WInvD_transfer {G : Type} (step : G → List (Input × InputStatus) → G) (g0 : G) (s s' : P2P) (x : GS G)
    (h : WInvD step g0 s x) (hsess : ∃ gh st0, SessInvD s' gh ⟨x.cur, x.R⟩ [] st0)
    (hcl : s'.sync.cells = s.sync.cells) (hsp : s'.sparse = s.sparse)
    (hcur : s'.sync.currentFrame = s.sync.currentFrame) (hls : s'.sync.lastSavedFrame = s.sync.lastSavedFrame) :
    WInvD step g0 s' x := by
  obtain ⟨c, hc, hg, htags, hmode⟩ := h.chk
  refine ⟨hsess, ?_, c, hc.trans hcur.symm, ?_, ?_, ModeInv_congr s s' c hcl hcur hsp hls hmode⟩
  · rw [hcl]; exact h.ncells
  · rw [hcl]; exact hg
  · rw [hcl]; exact htags

inductive XWStep {G : Type} (step : G → List (Input × InputStatus) → G) : (P2P × GS G) → (P2P × GS G) → Prop
  /-- anything `XStep` does that is not a call (an arrival, a drop): the game is not involved -/
  | net (s s' : P2P) (x : GS G) : XStep (s, ⟨x.cur, x.R⟩) (s', ⟨x.cur, x.R⟩) →
      s'.sync.cells = s.sync.cells → s'.sparse = s.sparse → s'.sync.currentFrame = s.sync.currentFrame →
      s'.sync.lastSavedFrame = s.sync.lastSavedFrame → XWStep step (s, x) (s', x)
  | tick (s s' : P2P) (x : GS G) (now : Nat) (reqs' : List Request) (saves : List (Frame × Option Nat)) :
      s.advanceRollbackFrame now [] = .ok (s', reqs') → saves.map (·.1) = savedFrames reqs' →
      XWStep step (s, x) (s'.userExecute saves, execGs step s.sync.cells.length x reqs')
  /-- the very first call: `advance_frame_after_poll` saves frame 0 before anything else -/
  | tick0 (s s' : P2P) (x : GS G) (now : Nat) (sy : SyncLayer) (r : Request) (reqs' : List Request)
      (saves : List (Frame × Option Nat)) :
      s.sync.currentFrame = 0 → s.sync.saveCurrentState = .ok (sy, r) →
      ({ s with sync := sy } : P2P).advanceRollbackFrame now [r] = .ok (s', reqs') →
      saves.map (·.1) = savedFrames reqs' →
      XWStep step (s, x) (s'.userExecute saves, execGs step s.sync.cells.length x reqs')

inductive XWStar {G : Type} (step : G → List (Input × InputStatus) → G) : (P2P × GS G) → (P2P × GS G) → Prop
  | refl (w) : XWStar step w w
  | step (a b c) : XWStar step a b → XWStep step b c → XWStar step a c

theorem WInvD_tick {G : Type} (step : G → List (Input × InputStatus) → G) (g0 : G) (s s' : P2P) (x : GS G)
    (now : Nat) (reqs' : List Request) (saves : List (Frame × Option Nat)) (h : WInvD step g0 s x)
    (hadv : s.advanceRollbackFrame now [] = .ok (s', reqs')) (hsaves : saves.map (·.1) = savedFrames reqs') :
    WInvD step g0 (s'.userExecute saves) (execGs step s.sync.cells.length x reqs') ∧ TickOK step g0 s x s' reqs' := by
  obtain ⟨gh, st0, hsess⟩ := h.sess
  obtain ⟨c, hcur, hg, htags, hmode⟩ := h.chk
  obtain ⟨a, ⟨c', b1, b2⟩, d⟩ := WInvD_tick_core step g0 s s' x now [] reqs' saves gh st0 c c hsess h.ncells hg htags
    (ChkList.nil c) hcur hmode hadv hsaves
  exact ⟨a, ⟨c, c', hg, b1, b2⟩, d⟩

theorem SessInvD_save (s : P2P) (gh : DGhost) (t : TLState) (reqs : List Request) (st0 : List ConnStatus)
    (sy : SyncLayer) (r : Request) (h : SessInvD s gh t reqs st0) (hsv : s.sync.saveCurrentState = .ok (sy, r)) :
    SessInvD ({ s with sync := sy } : P2P) gh t (reqs ++ [r]) st0 := by
  obtain ⟨_, rfl, rfl⟩ := SyncLayer.saveCurrentState_ok hsv
  have hR : (execReqs t (reqs ++ [.save s.sync.currentFrame])).R = (execReqs t reqs).R := by rw [execReqs_append]; rfl
  have hC : (execReqs t (reqs ++ [.save s.sync.currentFrame])).cur = (execReqs t reqs).cur := by rw [execReqs_append]; rfl
  refine ⟨⟨SyncInvD_congr h.tinv.sync rfl rfl, by rw [hC]; exact h.tinv.exec, by rw [hR]; exact h.tinv.rows,
      by rw [hR]; exact h.tinv.deadRows⟩,
    h.marks, h.asked, h.pend, h.status, h.remote, h.localAlive, h.safe, h.dfok, h.deadClean, ?_⟩
  -- the new save is at the current frame, beyond every gone player's last frame
  intro _ p hp hg
  show _ < s.sync.currentFrame
  rw [h.marks.last]
  exact (h.tinv.sync.gone p hp hg).lt

theorem WInvD_tick0 {G : Type} (step : G → List (Input × InputStatus) → G) (g0 : G) (s s' : P2P) (x : GS G)
    (now : Nat) (sy : SyncLayer) (r : Request) (reqs' : List Request) (saves : List (Frame × Option Nat))
    (h : WInvD step g0 s x) (h0 : s.sync.currentFrame = 0) (hsv : s.sync.saveCurrentState = .ok (sy, r))
    (hadv : ({ s with sync := sy } : P2P).advanceRollbackFrame now [r] = .ok (s', reqs'))
    (hsaves : saves.map (·.1) = savedFrames reqs') :
    WInvD step g0 (s'.userExecute saves) (execGs step s.sync.cells.length x reqs') ∧ TickOK step g0 s x s' reqs' := by
  obtain ⟨gh, st0, hsess⟩ := h.sess
  obtain ⟨c, hcur, hg, htags, hmode⟩ := h.chk
  obtain ⟨c0, hl0, hcur0, hmode0⟩ := save0_chk s sy r c hcur h0 hsv hmode
  have hsess1 := SessInvD_save s gh _ [] st0 sy r hsess hsv
  obtain ⟨_, rfl, rfl⟩ := SyncLayer.saveCurrentState_ok hsv
  obtain ⟨a, ⟨c', b1, b2⟩, d⟩ := WInvD_tick_core step g0 _ s' x now _ reqs' saves gh st0 c c0 hsess1 h.ncells hg htags
    hl0 hcur0 hmode0 hadv hsaves
  exact ⟨a, ⟨c, c', hg, b1, b2⟩, d⟩

theorem WInvD_step {G : Type} (step : G → List (Input × InputStatus) → G) (g0 : G) (a b : P2P × GS G)
    (h : WInvD step g0 a.1 a.2) (hs : XWStep step a b) : WInvD step g0 b.1 b.2 := by
  cases hs with
  | net s s' x hx hcl hsp hcur hls =>
    exact WInvD_transfer step g0 s s' x h (XInv_step (s, ⟨x.cur, x.R⟩) _ h.sess hx) hcl hsp hcur hls
  | tick s s' x now reqs' saves hadv hsaves => exact (WInvD_tick step g0 s s' x now reqs' saves h hadv hsaves).1
  | tick0 s s' x now sy r reqs' saves h0 hsv hadv hsaves =>
    exact (WInvD_tick0 step g0 s s' x now sy r reqs' saves h h0 hsv hadv hsaves).1

theorem WInvD_run {G : Type} (step : G → List (Input × InputStatus) → G) (g0 : G) (a b : P2P × GS G)
    (h : WInvD step g0 a.1 a.2) (hr : XWStar step a b) : WInvD step g0 b.1 b.2 := by
  induction hr with
  | refl => exact h
  | step b c _ hs ih => exact WInvD_step step g0 b c ih hs

theorem WInvD_of_WInv {G : Type} (step : G → List (Input × InputStatus) → G) (g0 : G) (s : P2P) (x : GS G)
    (h : WInv step g0 s x) (hdf : s.disconnectFrame = NULL_FRAME) : WInvD step g0 s x := by
  obtain ⟨gh, hs⟩ := h.sess
  exact ⟨⟨_, _, SessInvD_of_SessInv s gh _ [] hs hdf⟩, h.ncells, h.chk⟩

/-- `reported_is_replay` only reads the game-side half of the invariant. -/
theorem reported_is_replayD {G : Type} (step : G → List (Input × InputStatus) → G) (g0 : G) (csf : G → Option Nat)
    (s : P2P) (x : GS G) (hw : WInvD step g0 s x) (hck : CkRel csf s.sync.cells x) (interval : Nat) (cell : Cell)
    (hc : s.checksumCellToReport interval = .ok (some cell)) :
    0 ≤ cell.frame ∧ cell.frame ≤ s.sync.lastConfirmedFrame ∧ s.nextReportFrame interval ≤ cell.frame ∧
    cell.checksum = csf (replay step g0 x.R cell.frame.toNat) :=
  reported_of_chk step g0 csf s x hw.ncells hw.chk hck interval cell hc

/-- The world with drops, a deterministic game whose saves hand over the state's checksum, and the
desync bookkeeping as steps. -/
inductive CXStep {G : Type} (step : G → List (Input × InputStatus) → G) (csf : G → Option Nat) :
    (P2P × GS G) → (P2P × GS G) → Prop
  | net (s s' : P2P) (x : GS G) : XStep (s, ⟨x.cur, x.R⟩) (s', ⟨x.cur, x.R⟩) →
      s'.sync.cells = s.sync.cells → s'.sparse = s.sparse → s'.sync.currentFrame = s.sync.currentFrame →
      s'.sync.lastSavedFrame = s.sync.lastSavedFrame → CXStep step csf (s, x) (s', x)
  | report (s s' : P2P) (x : GS G) (now : Nat) : s.checkChecksumSendInterval now = .ok s' → CXStep step csf (s, x) (s', x)
  | compare (s : P2P) (x : GS G) : CXStep step csf (s, x) (s.compareLocalChecksumsAgainstPeers, x)
  | waitRec (s s' : P2P) (x : GS G) : s.checkWaitRecommendation = .ok s' → CXStep step csf (s, x) (s', x)
  | tick (s s' : P2P) (x : GS G) (now : Nat) (reqs' : List Request) :
      s.advanceRollbackFrame now [] = .ok (s', reqs') →
      CXStep step csf (s, x)
        (s'.userExecute (gameSaves step csf s.sync.cells.length x reqs'), execGs step s.sync.cells.length x reqs')
  | tick0 (s s' : P2P) (x : GS G) (now : Nat) (sy : SyncLayer) (r : Request) (reqs' : List Request) :
      s.sync.currentFrame = 0 → s.sync.saveCurrentState = .ok (sy, r) →
      ({ s with sync := sy } : P2P).advanceRollbackFrame now [r] = .ok (s', reqs') →
      CXStep step csf (s, x)
        (s'.userExecute (gameSaves step csf s.sync.cells.length x reqs'), execGs step s.sync.cells.length x reqs')

inductive CXStar {G : Type} (step : G → List (Input × InputStatus) → G) (csf : G → Option Nat) :
    (P2P × GS G) → (P2P × GS G) → Prop
  | refl (w) : CXStar step csf w w
  | step (a b c) : CXStar step csf a b → CXStep step csf b c → CXStar step csf a c

def CInvD {G : Type} (step : G → List (Input × InputStatus) → G) (g0 : G) (csf : G → Option Nat) (w : P2P × GS G) : Prop :=
  WInvD step g0 w.1 w.2 ∧ CkRel csf w.1.sync.cells w.2

theorem CInvD_netOnly {G : Type} (step : G → List (Input × InputStatus) → G) (g0 : G) (csf : G → Option Nat)
    (s s' : P2P) (x : GS G) (h : CInvD step g0 csf (s, x)) (hc : P2P.SameCore s s') : CInvD step g0 csf (s', x) := by
  obtain ⟨hd, hck⟩ := h
  obtain ⟨gh, st0, hs⟩ := hd.sess
  refine ⟨WInvD_transfer step g0 s s' x hd ⟨gh, st0, SessInvD_congr s s' gh _ [] st0 hs hc⟩
    (by rw [hc.sync]) hc.sparse (by rw [hc.sync]) (by rw [hc.sync]), ?_⟩
  show CkRel csf s'.sync.cells x
  rw [hc.sync]
  exact hck

theorem CInvD_step {G : Type} (step : G → List (Input × InputStatus) → G) (g0 : G) (csf : G → Option Nat)
    (a b : P2P × GS G) (h : CInvD step g0 csf a) (hs : CXStep step csf a b) : CInvD step g0 csf b := by
  obtain ⟨hd, hck⟩ := h
  cases hs with
  | net s s' x hx hcl hsp hcur hls =>
    exact ⟨WInvD_step step g0 _ _ hd (XWStep.net s s' x hx hcl hsp hcur hls),
      by show CkRel csf s'.sync.cells x; rw [hcl]; exact hck⟩
  | report s s' x now hrep => exact CInvD_netOnly step g0 csf s s' x ⟨hd, hck⟩ (report_fields s s' now hrep).1
  | compare s x => exact CInvD_netOnly step g0 csf s _ x ⟨hd, hck⟩ (compare_fields s).1
  | waitRec s s' x hw => exact CInvD_netOnly step g0 csf s s' x ⟨hd, hck⟩ (waitRec_fields s s' hw).1
  | tick s s' x now reqs' hadv =>
    obtain ⟨hw', ⟨c, c', _, hchk, _⟩, _⟩ := WInvD_tick step g0 s s' x now reqs' _ hd hadv
      (gameSaves_frames step csf s.sync.cells.length reqs' x)
    exact ⟨hw', CkRel_call step csf s s' x now [] reqs' c c' hadv hchk hd.ncells hck⟩
  | tick0 s s' x now sy r reqs' hf0 hsv hadv =>
    obtain ⟨hw', ⟨c, c', _, hchk, _⟩, _⟩ := WInvD_tick0 step g0 s s' x now sy r reqs' _ hd hf0 hsv hadv
      (gameSaves_frames step csf s.sync.cells.length reqs' x)
    -- the extra save leaves the cells to the game
    obtain ⟨_, rfl, _⟩ := SyncLayer.saveCurrentState_ok hsv
    have hck' := CkRel_call step csf _ s' x now [r] reqs' c c' hadv hchk hd.ncells hck
    exact ⟨hw', hck'⟩

theorem CInvD_run {G : Type} (step : G → List (Input × InputStatus) → G) (g0 : G) (csf : G → Option Nat)
    (a b : P2P × GS G) (h : CInvD step g0 csf a) (hr : CXStar step csf a b) : CInvD step g0 csf b := by
  induction hr with
  | refl => exact h
  | step b c _ hs ih => exact CInvD_step step g0 csf b c ih hs

end Ggrs
