/-
L-spectator: the 60-slot ring of `SpectatorSession` against the host's confirmed input sequence,
for every interleaving of received frames and `advance_frame` loops.
-/
import GgrsModel.Model.Spectator
import GgrsModel.Proofs.Monad
import GgrsModel.Proofs.Queue

namespace Ggrs
namespace Spectator

theorem handleInput_fields (s s' : Spectator) (now : Nat) (inp : PlayerInput) (j addr : Nat)
    (h : s.handleEvent now (.input inp j) addr = .ok s') :
    s'.inputs = rset s.inputs (frameIdx inp.frame SPECTATOR_BUFFER_SIZE)
      (rset (rget s.inputs (frameIdx inp.frame SPECTATOR_BUFFER_SIZE)) j inp) ∧
    s'.lastRecvFrame = inp.frame ∧ inp.frame ≥ s.lastRecvFrame ∧ j < s.numPlayers ∧
    s'.numPlayers = s.numPlayers ∧ s'.currentFrame = s.currentFrame ∧ s'.running = s.running ∧
    s'.maxFramesBehind = s.maxFramesBehind ∧ s'.catchupSpeed = s.catchupSpeed := by
  unfold handleEvent at h
  obtain ⟨s1, hc, h⟩ := bind_ok h
  have := pure_ok h
  subst this
  unfold handleEventCore at hc
  simp only at hc
  obtain ⟨hj, hc⟩ := ensure_bind_ok hc
  obtain ⟨hge, hc⟩ := ensure_bind_ok hc
  obtain ⟨host, _, hc⟩ := bind_ok hc
  have := pure_ok hc
  subst this
  exact ⟨rfl, rfl, by simpa using hge, by simpa using hj, rfl, rfl, rfl, rfl, rfl⟩

/-- One complete frame of Input events, player by player. -/
def recvLoop (now : Nat) (f : Frame) (addr : Nat) : List Input → Nat → Spectator → M Spectator
  | [], _, s => .ok s
  | v :: vs, j, s => do
    let s' ← s.handleEvent now (.input ⟨f, v⟩ j) addr
    recvLoop now f addr vs (j + 1) s'

def mkRow (f : Frame) (vals : List Input) : List PlayerInput := vals.map fun v => ⟨f, v⟩

theorem rset_take_drop (old : List PlayerInput) (f : Frame) (done : List Input) (v : Input)
    (h : done.length < old.length) :
    rset (mkRow f done ++ old.drop done.length) done.length ⟨f, v⟩
      = mkRow f (done ++ [v]) ++ old.drop (done.length + 1) := by
  unfold rset mkRow
  have hl : (List.map (fun v => (⟨f, v⟩ : PlayerInput)) done).length = done.length := by simp
  rw [List.set_append_right _ _ (by rw [hl]; exact Nat.le_refl _), hl, Nat.sub_self]
  have : old.drop done.length = old[done.length] :: old.drop (done.length + 1) := by
    rw [List.drop_eq_getElem_cons h]
  rw [this, List.set_cons_zero]
  simp

/-- The loop fills the slot of frame `f` from player `j` on and touches nothing else. -/
theorem recvLoop_spec (now : Nat) (f : Nat) (addr : Nat) : ∀ (vs done : List Input) (s s' : Spectator)
    (old : List PlayerInput),
    s.inputs.length = SPECTATOR_BUFFER_SIZE →
    rget s.inputs (f % SPECTATOR_BUFFER_SIZE) = mkRow f done ++ old.drop done.length →
    done.length + vs.length = old.length →
    recvLoop now (f : Int) addr vs done.length s = .ok s' →
    s'.inputs = rset s.inputs (f % SPECTATOR_BUFFER_SIZE) (mkRow f (done ++ vs)) ∧
    (vs ≠ [] → s'.lastRecvFrame = (f : Int) ∧ (f : Int) ≥ s.lastRecvFrame) ∧
    (vs = [] → s'.lastRecvFrame = s.lastRecvFrame) ∧
    s'.numPlayers = s.numPlayers ∧ s'.currentFrame = s.currentFrame ∧ s'.running = s.running ∧
    s'.maxFramesBehind = s.maxFramesBehind ∧ s'.catchupSpeed = s.catchupSpeed := by
  intro vs
  induction vs with
  | nil =>
    intro done s s' old hlen hslot hsum hl
    simp only [recvLoop] at hl
    cases hl
    simp only [List.length_nil, Nat.add_zero] at hsum
    refine ⟨?_, fun h => absurd rfl h, fun _ => rfl, rfl, rfl, rfl, rfl, rfl⟩
    rw [List.append_nil]
    have : mkRow f done = rget s.inputs (f % SPECTATOR_BUFFER_SIZE) := by
      rw [hslot, hsum]; simp
    rw [this, rset_rget_self _ _ (by rw [hlen]; exact Nat.mod_lt _ (by decide))]
  | cons v vs ih =>
    intro done s s' old hlen hslot hsum hl
    simp only [recvLoop] at hl
    obtain ⟨s1, h1, hl⟩ := bind_ok hl
    obtain ⟨hin, hlr, hge, hj, hnp, hcf, hrun, hmf, hcs⟩ := handleInput_fields s s1 now ⟨f, v⟩ done.length addr h1
    simp only [frameIdx_natCast] at hin
    have hslotlt : f % SPECTATOR_BUFFER_SIZE < s.inputs.length := by rw [hlen]; exact Nat.mod_lt _ (by decide)
    simp only [List.length_cons] at hsum
    have hslot1 : rget s1.inputs (f % SPECTATOR_BUFFER_SIZE) = mkRow f (done ++ [v]) ++ old.drop ((done ++ [v]).length) := by
      rw [hin, rget_rset_eq _ _ _ hslotlt, hslot, rset_take_drop old f done v (by omega)]
      simp
    have hlen1 : s1.inputs.length = SPECTATOR_BUFFER_SIZE := by rw [hin, rset_length]; exact hlen
    have hdl : (done ++ [v]).length = done.length + 1 := by simp
    rw [← hdl] at hl
    obtain ⟨hin', hcons, hnil, hnp', hcf', hrun', hmf', hcs'⟩ := ih (done ++ [v]) s1 s' old hlen1 hslot1 (by rw [hdl]; omega) hl
    refine ⟨?_, fun _ => ?_, fun h => absurd h (List.cons_ne_nil _ _), hnp'.trans hnp, hcf'.trans hcf, hrun'.trans hrun,
      hmf'.trans hmf, hcs'.trans hcs⟩
    · rw [hin', hin, rset_rset]
      simp [List.append_assoc]
    · by_cases hvs : vs = []
      · rw [hnil hvs, hlr]; exact ⟨rfl, hge⟩
      · obtain ⟨a, _⟩ := hcons hvs
        exact ⟨a, hge⟩

end Spectator
end Ggrs

namespace Ggrs
namespace Spectator

/-- The ring against the host's confirmed sequence `Hs` (frame `i` ↦ the players' inputs), of
which `Hs.length` complete frames have arrived. -/
structure SpecRing (s : Spectator) (Hs : List (List Input)) : Prop where
  len : s.inputs.length = SPECTATOR_BUFFER_SIZE
  players : s.numPlayers > 0
  rows : ∀ r ∈ Hs, r.length = s.numPlayers
  width : ∀ i, i < SPECTATOR_BUFFER_SIZE → (rget s.inputs i).length = s.numPlayers
  held : ∀ f, f < Hs.length → Hs.length ≤ f + SPECTATOR_BUFFER_SIZE →
    rget s.inputs (f % SPECTATOR_BUFFER_SIZE) = mkRow f (Hs.getD f [])
  fresh : ∀ i, i < SPECTATOR_BUFFER_SIZE → Hs.length ≤ i → (rget (rget s.inputs i) 0).frame = NULL_FRAME
  lastRecv : s.lastRecvFrame = (Hs.length : Int) - 1

theorem SpecRing.congr {s s' : Spectator} {Hs : List (List Input)} (h : SpecRing s Hs) (hin : s'.inputs = s.inputs)
    (hnp : s'.numPlayers = s.numPlayers) (hlr : s'.lastRecvFrame = s.lastRecvFrame) : SpecRing s' Hs :=
  ⟨by rw [hin]; exact h.len, by rw [hnp]; exact h.players, by rw [hnp]; exact h.rows,
   by rw [hin, hnp]; exact h.width, by rw [hin]; exact h.held, by rw [hin]; exact h.fresh,
   by rw [hlr]; exact h.lastRecv⟩

theorem specRing_new (numPlayers : Nat) (host : Endpoint) (mfb cs : Nat) (hn : numPlayers > 0) :
    SpecRing (Spectator.new numPlayers host mfb cs) [] := by
  refine ⟨List.length_replicate, hn, (fun r hr => absurd hr List.not_mem_nil), fun i hi => ?_, fun f hf => absurd hf (Nat.not_lt_zero f),
    fun i hi _ => ?_, rfl⟩
  · show List.length (rget (List.replicate _ _) i) = numPlayers
    rw [rget_replicate _ _ _ hi, List.length_replicate]
  · show PlayerInput.frame (rget (rget (List.replicate _ _) i) 0) = NULL_FRAME
    rw [rget_replicate _ _ _ hi, rget_replicate _ _ _ hn]
    rfl

/-- The first entry of a slot tells which frame the slot holds: the requested one, an older one
(not yet received) or a newer one (overwritten). -/
theorem slot_frame (s : Spectator) (Hs : List (List Input)) (h : SpecRing s Hs) (f : Nat) :
    let fr := (rget (rget s.inputs (f % SPECTATOR_BUFFER_SIZE)) 0).frame
    (Hs.length ≤ f → fr < (f : Int)) ∧
    (f + SPECTATOR_BUFFER_SIZE < Hs.length → fr > (f : Int)) ∧
    (f < Hs.length → Hs.length ≤ f + SPECTATOR_BUFFER_SIZE → fr = (f : Int)) := by
  have hfm : f % SPECTATOR_BUFFER_SIZE < SPECTATOR_BUFFER_SIZE := Nat.mod_lt _ (by decide)
  -- the frame held by slot `g % SPECTATOR_BUFFER_SIZE` when `g` is in the window
  have first : ∀ g, g < Hs.length → Hs.length ≤ g + SPECTATOR_BUFFER_SIZE →
      (rget (rget s.inputs (g % SPECTATOR_BUFFER_SIZE)) 0).frame = (g : Int) := by
    intro g hg hw
    rw [h.held g hg hw]
    have hr : (Hs.getD g []).length = s.numPlayers :=
      h.rows _ (by rw [List.getD_eq_getElem?_getD, List.getElem?_eq_getElem hg]; exact List.getElem_mem hg)
    cases hrow : Hs.getD g [] with
    | nil =>
      rw [hrow] at hr
      exact absurd hr.symm (Nat.ne_of_gt h.players)
    | cons a as => rfl
  -- otherwise the slot holds the newest frame congruent to `f`, or nothing yet
  have other : f % SPECTATOR_BUFFER_SIZE < Hs.length → ∃ g : Nat, g < Hs.length ∧ Hs.length ≤ g + SPECTATOR_BUFFER_SIZE ∧
      (rget (rget s.inputs (f % SPECTATOR_BUFFER_SIZE)) 0).frame = (g : Int) := by
    intro hi
    obtain ⟨g, hg1, hg2, hg3⟩ := exists_newest_in_slot hfm hi
    exact ⟨g, hg1, hg2, hg3 ▸ first g hg1 hg2⟩
  refine ⟨fun hge => ?_, fun hlt => ?_, first f⟩
  · by_cases hi : f % SPECTATOR_BUFFER_SIZE < Hs.length
    · obtain ⟨g, hg1, _, hg⟩ := other hi
      simp only [hg]
      omega
    · simp only [h.fresh _ hfm (Nat.le_of_not_lt hi), NULL_FRAME]
      omega
  · obtain ⟨g, _, hg2, hg⟩ := other (Nat.lt_of_le_of_lt (Nat.mod_le _ _) (Nat.lt_of_le_of_lt (Nat.le_add_right _ _) hlt))
    simp only [hg]
    omega

theorem specRing_recv (s s' : Spectator) (Hs : List (List Input)) (now addr : Nat) (row : List Input)
    (h : SpecRing s Hs) (hrow : row.length = s.numPlayers)
    (hr : recvLoop now (Hs.length : Int) addr row 0 s = .ok s') :
    SpecRing s' (Hs ++ [row]) ∧ s'.numPlayers = s.numPlayers ∧ s'.currentFrame = s.currentFrame ∧
    s'.running = s.running ∧ s'.maxFramesBehind = s.maxFramesBehind ∧ s'.catchupSpeed = s.catchupSpeed := by
  have hslotlt : Hs.length % SPECTATOR_BUFFER_SIZE < s.inputs.length := by rw [h.len]; exact Nat.mod_lt _ (by decide)
  have hw := h.width _ (Nat.mod_lt Hs.length (by decide : SPECTATOR_BUFFER_SIZE > 0))
  obtain ⟨hin, hcons, _, hnp, hcf, hrun, hmf, hcs⟩ := recvLoop_spec now Hs.length addr row [] s s'
    (rget s.inputs (Hs.length % SPECTATOR_BUFFER_SIZE)) h.len (by simp [mkRow]) (by simp [hw, hrow]) hr
  simp only [List.nil_append] at hin
  have hrne : row ≠ [] := by
    intro h0; rw [h0] at hrow; have := h.players; simp at hrow; omega
  refine ⟨⟨by rw [hin, rset_length]; exact h.len, by rw [hnp]; exact h.players, ?_, ?_, ?_, ?_, ?_⟩, hnp, hcf, hrun, hmf, hcs⟩
  · intro r hr
    rw [hnp]
    rcases List.mem_append.mp hr with h1 | h1
    · exact h.rows r h1
    · simp only [List.mem_singleton] at h1; rw [h1]; exact hrow
  · intro i hi
    rw [hin, hnp]
    by_cases hie : Hs.length % SPECTATOR_BUFFER_SIZE = i
    · rw [← hie, rget_rset_eq _ _ _ hslotlt]; simp [mkRow, hrow]
    · rw [rget_rset_ne _ _ _ _ hie]; exact h.width i hi
  · intro f hf hwin
    rw [List.length_append, List.length_singleton] at hf hwin
    rw [hin]
    by_cases hfe : f = Hs.length
    · rw [hfe, rget_rset_eq _ _ _ hslotlt, getD_append_eq]
    · have hfl : f < Hs.length := by omega
      rw [rget_rset_ne _ _ _ _ (mod_ne_of_window hfl (by omega)), h.held f hfl (by omega), getD_append_lt _ _ _ hfl]
  · intro i hi hge
    rw [List.length_append, List.length_singleton] at hge
    rw [hin, rget_rset_ne _ _ _ _ (by rw [Nat.mod_eq_of_lt (by omega)]; omega)]
    exact h.fresh i hi (by omega)
  · rw [(hcons hrne).1, List.length_append, List.length_singleton]
    omega

end Spectator
end Ggrs

namespace Ggrs
namespace Spectator

theorem map_zipIdx_fst {α β} (l : List α) (g : α → β) (k : Nat) :
    (l.zipIdx k).map (fun x => g x.1) = l.map g := by
  induction l generalizing k with
  | nil => rfl
  | cons a as ih => simp [List.zipIdx_cons, ih]

theorem inputsAt_spec (s : Spectator) (Hs : List (List Input)) (h : SpecRing s Hs) (f : Nat)
    (r : Except GgrsError (List (Input × InputStatus))) (hi : s.inputsAtFrame (f : Int) = .ok r) :
    (Hs.length ≤ f ∧ r = .error .predictionThreshold) ∨
    (f + SPECTATOR_BUFFER_SIZE < Hs.length ∧ r = .error .spectatorTooFarBehind) ∨
    (f < Hs.length ∧ Hs.length ≤ f + SPECTATOR_BUFFER_SIZE ∧
      ∃ ins, r = .ok ins ∧ ins.map (·.1) = Hs.getD f []) := by
  obtain ⟨h1, h2, h3⟩ := slot_frame s Hs h f
  unfold inputsAtFrame at hi
  simp only [frameIdx_natCast] at hi
  obtain ⟨_, hi⟩ := ensure_bind_ok hi
  by_cases hge : Hs.length ≤ f
  · have := h1 hge
    simp only [this, if_true] at hi
    exact Or.inl ⟨hge, (pure_ok hi).symm⟩
  by_cases hlt : f + SPECTATOR_BUFFER_SIZE < Hs.length
  · have := h2 hlt
    have hn : ¬ (rget (rget s.inputs (f % SPECTATOR_BUFFER_SIZE)) 0).frame < (f : Int) := by omega
    simp only [hn, if_false, this, if_true] at hi
    exact Or.inr (Or.inl ⟨hlt, (pure_ok hi).symm⟩)
  have hlo : f < Hs.length := Nat.lt_of_not_le hge
  have hw : Hs.length ≤ f + SPECTATOR_BUFFER_SIZE := Nat.le_of_not_lt hlt
  have := h3 hlo hw
  have hn1 : ¬ (rget (rget s.inputs (f % SPECTATOR_BUFFER_SIZE)) 0).frame < (f : Int) := by omega
  have hn2 : ¬ (rget (rget s.inputs (f % SPECTATOR_BUFFER_SIZE)) 0).frame > (f : Int) := by omega
  simp only [hn1, hn2, if_false] at hi
  refine Or.inr (Or.inr ⟨hlo, hw, _, (pure_ok hi).symm, ?_⟩)
  rw [h.held f hlo hw]
  simp only [List.map_map, Function.comp_def]
  rw [map_zipIdx_fst _ (fun (x : PlayerInput) => x.input) 0]
  simp only [mkRow, List.map_map]
  have : ((fun (x : PlayerInput) => x.input) ∘ fun v => ({ frame := (f : Int), input := v } : PlayerInput)) = id := by
    funext v; rfl
  rw [this, List.map_id]

/-- The AdvanceFrame requests issued so far are the host's frames `c0, c0+1, ...` in order. -/
def AdvOk (Hs : List (List Input)) (c0 : Nat) (reqs : List Request) : Prop :=
  ∀ k, k < reqs.length → ∃ ins, reqs.getD k default = .advance ins ∧ ins.map (·.1) = Hs.getD (c0 + k) [] ∧
    c0 + k < Hs.length

theorem AdvOk_snoc (Hs : List (List Input)) (c0 : Nat) (reqs : List Request) (ins : List (Input × InputStatus))
    (h : AdvOk Hs c0 reqs) (hv : ins.map (·.1) = Hs.getD (c0 + reqs.length) []) (hl : c0 + reqs.length < Hs.length) :
    AdvOk Hs c0 (reqs ++ [.advance ins]) := by
  intro k hk
  rw [List.length_append, List.length_singleton] at hk
  by_cases hkl : k < reqs.length
  · rw [getD_append_lt _ _ _ hkl]
    exact h k hkl
  · rw [show k = reqs.length by omega, getD_append_eq]
    exact ⟨ins, rfl, hv, hl⟩

/-- The loop of `advance_frame`, with what a failure after the first iteration still knows: the first
frame asked for was in the ring. -/
theorem advLoop_run (Hs : List (List Input)) (c0 : Nat) : ∀ (n : Nat) (s s' : Spectator) (reqs : List Request)
    (res : Except GgrsError (List Request)),
    SpecRing s Hs → s.currentFrame = ((c0 + reqs.length : Nat) : Int) - 1 → AdvOk Hs c0 reqs →
    advanceAfterPoll.loop n s reqs = .ok (s', res) →
    s'.inputs = s.inputs ∧ s'.lastRecvFrame = s.lastRecvFrame ∧ s'.numPlayers = s.numPlayers ∧
    (∀ reqs', res = .ok reqs' → AdvOk Hs c0 reqs' ∧ reqs'.length = reqs.length + n ∧
        s'.currentFrame = ((c0 + reqs'.length : Nat) : Int) - 1) ∧
    (∀ e, res = .error e → ∃ m, m < n ∧ s'.currentFrame = ((c0 + reqs.length + m : Nat) : Int) - 1 ∧
        ((e = .predictionThreshold ∧ Hs.length ≤ c0 + reqs.length + m) ∨
         (e = .spectatorTooFarBehind ∧ c0 + reqs.length + m + SPECTATOR_BUFFER_SIZE < Hs.length)) ∧
        (0 < m → Hs.length ≤ c0 + reqs.length + SPECTATOR_BUFFER_SIZE)) := by
  intro n
  induction n with
  | zero =>
    intro s s' reqs res _ hc hadv hl
    simp only [advanceAfterPoll.loop] at hl
    cases hl
    exact ⟨rfl, rfl, rfl, (fun reqs' hr => by cases hr; exact ⟨hadv, rfl, hc⟩), (fun e he => by cases he)⟩
  | succ k ih =>
    intro s s' reqs res h hc hadv hl
    simp only [advanceAfterPoll.loop] at hl
    obtain ⟨r, hat, hl⟩ := bind_ok hl
    have hfr : s.currentFrame + 1 = ((c0 + reqs.length : Nat) : Int) := by rw [hc]; omega
    rw [hfr] at hat
    have hpos := inputsAt_spec s Hs h (c0 + reqs.length) r hat
    cases r with
    | error e =>
      simp only at hl
      obtain ⟨rfl, rfl⟩ := Prod.mk.inj (pure_ok hl)
      refine ⟨rfl, rfl, rfl, nofun, fun e' he => ?_⟩
      cases he
      refine ⟨0, Nat.succ_pos k, hc, ?_, fun h0 => absurd h0 (Nat.lt_irrefl 0)⟩
      rcases hpos with ⟨hge, he⟩ | ⟨hlt, he⟩ | ⟨_, _, _, he, _⟩
      · cases he
        exact Or.inl ⟨rfl, hge⟩
      · cases he
        exact Or.inr ⟨rfl, hlt⟩
      · cases he
    | ok ins =>
      simp only at hl
      rcases hpos with ⟨_, he⟩ | ⟨_, he⟩ | ⟨hlo, hw, _, he, hv⟩
      · cases he
      · cases he
      cases he
      have h1 : SpecRing ({ s with currentFrame := s.currentFrame + 1 } : Spectator) Hs :=
        ⟨h.len, h.players, h.rows, h.width, h.held, h.fresh, h.lastRecv⟩
      have hadv1 := AdvOk_snoc Hs c0 reqs ins hadv hv hlo
      have hc1 : ({ s with currentFrame := s.currentFrame + 1 } : Spectator).currentFrame
          = ((c0 + (reqs ++ [Request.advance ins]).length : Nat) : Int) - 1 := by
        simp only [List.length_append, List.length_cons, List.length_nil]
        rw [hfr]; push_cast; omega
      obtain ⟨a, b, c, hok, herr⟩ := ih _ s' _ res h1 hc1 hadv1 hl
      refine ⟨a, b, c, fun reqs' hr => ?_, fun e he => ?_⟩
      · obtain ⟨x, y, z⟩ := hok reqs' hr
        refine ⟨x, ?_, z⟩
        rw [y]; simp only [List.length_append, List.length_cons, List.length_nil]; omega
      · obtain ⟨m, hm, hcur, hcase, _⟩ := herr e he
        rw [List.length_append, List.length_singleton, Nat.add_assoc c0, Nat.add_assoc reqs.length,
          Nat.add_comm 1, ← Nat.add_assoc c0] at hcur hcase
        exact ⟨m + 1, Nat.succ_lt_succ hm, hcur, hcase, fun _ => hw⟩

/-- The loop of `advance_frame` hands out the host's frames in order, one per iteration; PredictionThreshold means
the next frame has not arrived, SpectatorTooFarBehind that it has been overwritten. -/
theorem advLoop_spec (Hs : List (List Input)) (c0 : Nat) : ∀ (n : Nat) (s s' : Spectator) (reqs : List Request)
    (res : Except GgrsError (List Request)),
    SpecRing s Hs → s.currentFrame = ((c0 + reqs.length : Nat) : Int) - 1 → AdvOk Hs c0 reqs →
    advanceAfterPoll.loop n s reqs = .ok (s', res) →
    s'.inputs = s.inputs ∧ s'.lastRecvFrame = s.lastRecvFrame ∧ s'.numPlayers = s.numPlayers ∧
    (∀ reqs', res = .ok reqs' → AdvOk Hs c0 reqs' ∧ reqs'.length = reqs.length + n ∧
        s'.currentFrame = ((c0 + reqs'.length : Nat) : Int) - 1) ∧
    (∀ e, res = .error e → ∃ m, m < n ∧ s'.currentFrame = ((c0 + reqs.length + m : Nat) : Int) - 1 ∧
        ((e = .predictionThreshold ∧ Hs.length ≤ c0 + reqs.length + m) ∨
         (e = .spectatorTooFarBehind ∧ c0 + reqs.length + m + SPECTATOR_BUFFER_SIZE < Hs.length))) := by
  intro n s s' reqs res h hc hadv hl
  obtain ⟨a, b, c, hok, herr⟩ := advLoop_run Hs c0 n s s' reqs res h hc hadv hl
  refine ⟨a, b, c, hok, fun e he => ?_⟩
  obtain ⟨m, hm, hcur, hcase, _⟩ := herr e he
  exact ⟨m, hm, hcur, hcase⟩

end Spectator
end Ggrs

namespace Ggrs
namespace Spectator

/-- The spectator against the host's sequence `Hs`, having handed out the first `served` frames. -/
structure SpecInv (s : Spectator) (Hs : List (List Input)) (served : Nat) : Prop where
  ring : SpecRing s Hs
  cur : s.currentFrame = (served : Int) - 1
  le : served ≤ Hs.length

/-- `advance_frame` after the poll: either an error with nothing consumed (NotSynchronized; PredictionThreshold, the
next frame has not arrived; SpectatorTooFarBehind, the host has overwritten it) or the next `k` frames of the
host's sequence in order, `k` being 1, or `min(catchup_speed, frames behind, SPECTATOR_BUFFER_SIZE - 1)` while
more than `max_frames_behind` frames are buffered. -/
theorem advanceAfterPoll_spec (s s' : Spectator) (Hs : List (List Input)) (served : Nat)
    (res : Except GgrsError (List Request)) (h : SpecInv s Hs served)
    (hadv : s.advanceAfterPoll = .ok (s', res)) :
    (∀ reqs, res = .ok reqs → AdvOk Hs served reqs ∧ SpecInv s' Hs (served + reqs.length) ∧
      reqs.length = (if Hs.length - served > s.maxFramesBehind
        then min (min s.catchupSpeed (Hs.length - served)) (SPECTATOR_BUFFER_SIZE - 1) else NORMAL_SPEED)) ∧
    (∀ e, res = .error e → SpecInv s' Hs served ∧
      (e = .notSynchronized ∨ (e = .predictionThreshold ∧ Hs.length ≤ served) ∨
       (e = .spectatorTooFarBehind ∧ served + SPECTATOR_BUFFER_SIZE < Hs.length))) := by
  unfold advanceAfterPoll at hadv
  by_cases hrun : s.running = true
  · simp only [hrun, Bool.not_true, Bool.false_eq_true, if_false] at hadv
    obtain ⟨behind, hb, hadv⟩ := bind_ok hadv
    unfold framesBehindHost at hb
    obtain ⟨_, hb⟩ := ensure_bind_ok hb
    have hbe := pure_ok hb
    have hbeh : behind = Hs.length - served := by
      rw [← hbe, h.ring.lastRecv, h.cur]
      have := h.le
      omega
    generalize hn : (if behind > s.maxFramesBehind then min (min s.catchupSpeed behind) (SPECTATOR_BUFFER_SIZE - 1)
      else NORMAL_SPEED) = n at hadv
    obtain ⟨hin, hlr, hnp, hok, herr⟩ := advLoop_run Hs served n s s' [] res h.ring (by simpa using h.cur)
      (fun k hk => by simp at hk) hadv
    have hring' : SpecRing s' Hs := h.ring.congr hin hnp hlr
    refine ⟨fun reqs hr => ?_, fun e he => ?_⟩
    · obtain ⟨hadvok, hlen, hcur⟩ := hok reqs hr
      simp only [List.length_nil, Nat.zero_add] at hlen
      refine ⟨hadvok, ⟨hring', hcur, ?_⟩, by rw [hlen, ← hn, hbeh]⟩
      by_cases hz : reqs.length = 0
      · rw [hz]; exact h.le
      · obtain ⟨_, _, _, hlt⟩ := hadvok (reqs.length - 1) (by omega)
        omega
    · obtain ⟨m, hm, hcur, hcase, hwin⟩ := herr e he
      simp only [List.length_nil, Nat.add_zero] at hcur hcase hwin
      -- the failing iteration is the first one: the loop does not run past the newest frame, and a
      -- frame is not overwritten while an earlier one is still there
      have hm0 : m = 0 := by
        have hnle : n ≤ 1 ∨ n ≤ Hs.length - served := by
          rw [← hn, hbeh]
          split
          · exact Or.inr (Nat.le_trans (Nat.min_le_left _ _) (Nat.min_le_right _ _))
          · exact Or.inl (Nat.le_refl _)
        have hle := h.le
        rcases hcase with ⟨_, hge⟩ | ⟨_, hlt⟩
        · omega
        · exact Classical.byContradiction fun hne => by have := hwin (Nat.pos_of_ne_zero hne); omega
      subst hm0
      refine ⟨⟨hring', by simpa using hcur, h.le⟩, ?_⟩
      rcases hcase with ⟨a, b⟩ | ⟨a, b⟩
      · exact Or.inr (Or.inl ⟨a, by simpa using b⟩)
      · exact Or.inr (Or.inr ⟨a, by simpa using b⟩)
  · have hr : s.running = false := by simpa using hrun
    simp only [hr, Bool.not_false, if_true] at hadv
    have := pure_ok hadv
    simp only [Prod.mk.injEq] at this
    obtain ⟨hs', hres⟩ := this
    subst hs'; subst hres
    exact ⟨(fun reqs hr => by cases hr), (fun e he => by cases he; exact ⟨h, Or.inl rfl⟩)⟩

/-- Steps of a spectator: the next complete frame of the host arrives, or `advance_frame` runs. -/
inductive SpStep : (Spectator × List (List Input) × Nat) → (Spectator × List (List Input) × Nat) → Prop
  | recv (s s' : Spectator) (Hs : List (List Input)) (served : Nat) (now addr : Nat) (row : List Input) :
      row.length = s.numPlayers → recvLoop now (Hs.length : Int) addr row 0 s = .ok s' →
      SpStep (s, Hs, served) (s', Hs ++ [row], served)
  | advance (s s' : Spectator) (Hs : List (List Input)) (served : Nat) (res : Except GgrsError (List Request)) :
      s.advanceAfterPoll = .ok (s', res) →
      SpStep (s, Hs, served) (s', Hs, served + (match res with | .ok reqs => reqs.length | .error _ => 0))

inductive SpStar : (Spectator × List (List Input) × Nat) → (Spectator × List (List Input) × Nat) → Prop
  | refl (x) : SpStar x x
  | step (x y z) : SpStar x y → SpStep y z → SpStar x z

theorem SpecInv_step (x y : Spectator × List (List Input) × Nat) (h : SpecInv x.1 x.2.1 x.2.2) (hs : SpStep x y) :
    SpecInv y.1 y.2.1 y.2.2 := by
  cases hs with
  | recv s s' Hs served now addr row hrow hr =>
    obtain ⟨hring, _, hcf, _⟩ := specRing_recv s s' Hs now addr row h.ring hrow hr
    have hle : served ≤ Hs.length := h.le
    exact ⟨hring, by show s'.currentFrame = _; rw [hcf]; exact h.cur,
      by show served ≤ (Hs ++ [row]).length; simp; omega⟩
  | advance s s' Hs served res hadv =>
    obtain ⟨hok, herr⟩ := advanceAfterPoll_spec s s' Hs served res h hadv
    cases res with
    | ok reqs => exact (hok reqs rfl).2.1
    | error e => exact (herr e rfl).1

/-- L-spectator: the invariant holds after every interleaving of arrivals and `advance_frame` calls. -/
theorem SpecInv_run (x y : Spectator × List (List Input) × Nat) (h : SpecInv x.1 x.2.1 x.2.2) (hr : SpStar x y) :
    SpecInv y.1 y.2.1 y.2.2 := by
  induction hr with
  | refl => exact h
  | step y z _ hs ih => exact SpecInv_step y z ih hs

end Spectator
end Ggrs
