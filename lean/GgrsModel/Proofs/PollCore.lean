/-
`poll_remote_clients` touches the core of the session (sync layer, connection statuses, disconnect
frame, ...) only through `handle_event`: everything else it does — handing messages to the
endpoints, their timers, flushing their send queues — is network-only. So a poll is, for the
session theorems, a sequence of `handle_event` calls on the events its endpoints raised, in order.
-/
import GgrsModel.Proofs.Frame

namespace Ggrs
namespace P2P

theorem sameCore_net (s : P2P) (rem sp : List (Nat × Endpoint)) (evq : List Event) (out : List (Nat × Msg))
    (run : Bool) :
    SameCore s { s with remotes := rem, spectators := sp, eventQueue := evq, outbox := out, running := run } :=
  ⟨rfl, rfl, rfl, rfl, rfl, rfl, rfl, rfl, rfl⟩

theorem checkInitialSync_sameCore (s : P2P) : SameCore s s.checkInitialSync := by
  unfold checkInitialSync
  split
  · exact SameCore.refl s
  · split
    · exact sameCore_net s _ _ _ _ _
    · exact SameCore.refl s

/-- A poll is a sequence of `handle_event` calls, as far as the session core is concerned. -/
theorem poll_core (s s' : P2P) (now : Nat) (received : List (Nat × Msg))
    (h : s.pollRemoteClients now received = .ok s') :
    ∃ (s0 s1 : P2P) (evs : List (ProtoEvent × List Nat × Nat)), SameCore s s0 ∧
      evs.foldlM (fun s (x : ProtoEvent × List Nat × Nat) => s.handleEvent now x.1 x.2.1 x.2.2) s0 = .ok s1 ∧
      SameCore s1 s' := by
  unfold pollRemoteClients at h
  obtain ⟨sa, hmsgs, h⟩ := bind_ok h
  simp only at h
  obtain ⟨remotes1, _, h⟩ := bind_ok h
  obtain ⟨⟨remotes2, ev1⟩, _, h⟩ := bind_ok h
  obtain ⟨⟨spectators2, ev2⟩, _, h⟩ := bind_ok h
  obtain ⟨sb, hfold, h⟩ := bind_ok h
  cases pure_ok h
  have hca : SameCore s sa := by
    refine foldlM_sameCore _ ?_ received s sa hmsgs
    intro a x a' hx
    obtain ⟨_, _, hx⟩ := bind_ok hx
    obtain ⟨_, _, hx⟩ := bind_ok hx
    cases pure_ok hx
    exact sameCore_net a _ _ _ _ _
  exact ⟨{ sa with remotes := remotes2, spectators := spectators2 }, sb, ev1 ++ ev2,
    hca.trans (sameCore_net sa _ _ _ _ _), hfold, sameCore_net sb _ _ _ _ _⟩

theorem handleEvent_core (s s' : P2P) (now : Nat) (ev : ProtoEvent) (hs : List Nat) (addr : Nat)
    (h : s.handleEvent now ev hs addr = .ok s') :
    ∃ s1, s.handleEventCore now ev hs addr = .ok s1 ∧ SameCore s1 s' := by
  unfold handleEvent at h
  obtain ⟨s1, h1, h⟩ := bind_ok h
  cases pure_ok h
  exact ⟨s1, h1, sameCore_net s1 _ _ _ _ _⟩

theorem handleEventCore_other (s s' : P2P) (now : Nat) (ev : ProtoEvent) (hs : List Nat) (addr : Nat)
    (hni : ∀ inp p, ev ≠ .input inp p) (hnd : ev ≠ .disconnected)
    (h : s.handleEventCore now ev hs addr = .ok s') : SameCore s s' := by
  unfold handleEventCore at h
  cases ev with
  | synchronizing t c => cases pure_ok h; exact sameCore_net s _ _ _ _ _
  | networkInterrupted t => cases pure_ok h; exact sameCore_net s _ _ _ _ _
  | networkResumed => cases pure_ok h; exact sameCore_net s _ _ _ _ _
  | synchronized => cases pure_ok h; exact (checkInitialSync_sameCore s).trans (sameCore_net _ _ _ _ _ _)
  | disconnected => exact absurd rfl hnd
  | input inp p => exact absurd rfl (hni inp p)

end P2P
end Ggrs
