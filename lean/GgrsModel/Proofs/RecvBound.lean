/-
C18, endpoint level: the map of remembered received inputs stays small for every packet schedule.
-/
import GgrsModel.Proofs.Link

namespace Ggrs
open Codec (Bytes)

def KSorted (l : List (Int × Bytes)) : Prop := l.Pairwise (fun a b => a.1 < b.1)

theorem ksorted_ainsert (k : Int) (v : Bytes) (l : List (Int × Bytes)) (h : KSorted l) :
    KSorted (ainsert k v l) := by
  unfold KSorted at h ⊢
  fun_induction ainsert k v l with
  | case1 => exact List.pairwise_singleton _ _
  | case2 k' v' rest hlt =>
    refine List.pairwise_cons.mpr ⟨fun a ha => ?_, h⟩
    rcases List.mem_cons.mp ha with rfl | hin
    · exact hlt
    · exact Int.lt_trans hlt ((List.pairwise_cons.mp h).1 a hin)
  | case3 k' v' rest _ heq =>
    obtain rfl : k = k' := eq_of_beq heq
    exact List.pairwise_cons.mpr (List.pairwise_cons.mp h)
  | case4 k' v' rest hlt hne ih =>
    obtain ⟨hx, hxs⟩ := List.pairwise_cons.mp h
    refine List.pairwise_cons.mpr ⟨fun a ha => ?_, ih hxs⟩
    rcases mem_ainsert_sub k v rest a ha with rfl | hin
    · have : k ≠ k' := fun e => hne (beq_iff_eq.mpr e)
      show k' < k
      omega
    · exact hx a hin

theorem ksorted_length : ∀ (l : List (Int × Bytes)) (lo hi : Int), KSorted l → (∀ p ∈ l, lo ≤ p.1 ∧ p.1 ≤ hi) →
    (l.length : Int) ≤ max 0 (hi - lo + 1) := by
  intro l
  induction l with
  | nil => intro lo hi _ _; simp only [List.length_nil, Int.natCast_zero]; exact Int.le_max_left _ _
  | cons x xs ih =>
    intro lo hi h hr
    unfold KSorted at h
    have hx := (List.pairwise_cons.mp h).1
    have hxs := (List.pairwise_cons.mp h).2
    have hx0 := hr x List.mem_cons_self
    have := ih (x.1 + 1) hi hxs (fun p hp => ⟨by have := hx p hp; omega, (hr p (List.mem_cons_of_mem _ hp)).2⟩)
    simp only [List.length_cons]
    push_cast
    omega

structure RBound (e : Endpoint) : Prop where
  sorted : KSorted e.recvInputs
  window : ∀ p ∈ e.recvInputs, (p.1 = NULL_FRAME ∧ e.lastRecvFrame = NULL_FRAME) ∨
    (e.lastRecvFrame - 2 * (e.maxPrediction : Int) ≤ p.1 ∧ p.1 ≤ e.lastRecvFrame)

theorem RBound_length (e : Endpoint) (h : RBound e) : e.recvInputs.length ≤ 2 * e.maxPrediction + 1 := by
  have := ksorted_length e.recvInputs (e.lastRecvFrame - 2 * (e.maxPrediction : Int)) e.lastRecvFrame h.sorted (by
    intro p hp
    rcases h.window p hp with ⟨a, b⟩ | hw
    · rw [a, b]; omega
    · exact hw)
  omega

theorem acceptInputs_keeps (start : Frame) (xs : List Bytes) (e : Endpoint) (i : Nat)
    (hs : KSorted e.recvInputs) (hne : e.recvInputs ≠ []) :
    KSorted (Endpoint.acceptInputs e start xs i).1.recvInputs ∧ (Endpoint.acceptInputs e start xs i).1.recvInputs ≠ [] :=
  Endpoint.acceptInputs_preserves (P := fun e' => KSorted e'.recvInputs ∧ e'.recvInputs ≠ [])
    (fun _ _ _ _ h => ⟨ksorted_ainsert _ _ _ h.1, ainsert_ne_nil _ _ _⟩) start xs e i ⟨hs, hne⟩

theorem prune_rbound (e : Endpoint) (hs : KSorted e.recvInputs) (hne : e.recvInputs ≠ []) :
    RBound e.pruneRecv ∧ e.pruneRecv.recvInputs ≠ [] := by
  obtain ⟨hne', hlast⟩ := pruneRecv_last e hne
  refine ⟨⟨hs.filter _, fun p hp => Or.inr ?_⟩, hne'⟩
  have hm := List.mem_filter.mp hp
  rw [hlast]
  exact ⟨of_decide_eq_true hm.2, lastRecvFrame_eq e ▸ (maxKey_spec _ hne).1 p hm.1⟩

/-- `hok`: a packet whose frames fail the size check (C08's case) returns before the prune; that is the only
way out of the bound. -/
theorem decodeInputs_rbound (e : Endpoint) (now : Nat) (start : Frame) (bytes : Bytes)
    (h : RBound e) (hne : e.recvInputs ≠ [])
    (hok : ∀ ref inputs, alookup (if e.lastRecvFrame == NULL_FRAME then NULL_FRAME else start - 1) e.recvInputs = some ref →
      Codec.decode ref bytes = .ok inputs →
      (Endpoint.acceptInputs { e with runningLastInputRecv := now } start inputs 0).2 = true) :
    RBound (e.decodeInputs now start bytes) ∧ (e.decodeInputs now start bytes).recvInputs ≠ [] ∧
    (e.decodeInputs now start bytes).maxPrediction = e.maxPrediction := by
  cases hlk : alookup (if e.lastRecvFrame == NULL_FRAME then NULL_FRAME else start - 1) e.recvInputs with
  | none =>
    rw [Endpoint.decodeInputs_of_none hlk]
    exact ⟨⟨h.sorted, h.window⟩, hne, rfl⟩
  | some ref =>
    cases hdec : Codec.decode ref bytes with
    | error _ =>
      rw [Endpoint.decodeInputs_of_error hlk hdec]
      exact ⟨⟨h.sorted, h.window⟩, hne, rfl⟩
    | ok inputs =>
      rw [Endpoint.decodeInputs_of_accepted hlk hdec (Prod.ext rfl (hok ref inputs hlk hdec))]
      obtain ⟨hs1, hne1⟩ := acceptInputs_keeps start inputs { e with runningLastInputRecv := now } 0 h.sorted hne
      obtain ⟨hb, hne2⟩ := prune_rbound ((Endpoint.acceptInputs { e with runningLastInputRecv := now } start inputs 0).1.sendInputAck now) hs1 hne1
      exact ⟨hb, hne2, (acceptInputs_fields start inputs _ 0).2.2.1⟩

theorem RBound_step (S : SStream) (hsize : S.width ≤ 65535) (st st' : Link) (h : LInv S st)
    (hb : RBound st.b) (hstep : LStep S st st') : RBound st'.b ∧ st'.b.maxPrediction = st.b.maxPrediction := by
  cases hstep with
  | submit now inputs cs a' _ _ _ _ _ => exact ⟨hb, rfl⟩
  | resend now cs a' _ => exact ⟨hb, rfl⟩
  | packet now m cs d start ack bytes hm hbody =>
    obtain ⟨n, hok, hby, _, hfirst⟩ := h.packets m hm cs d start ack bytes hbody
    subst hby
    obtain ⟨_, _, _, _, _, _, _, _, hacc⟩ := L_stream_packet st.b S now start n h.rinv hok.pos hok.lo hok.hi
      (fun h0 => Classical.byContradiction fun hc => hfirst hc h0) hsize hok.cap
    obtain ⟨a, _, c⟩ := decodeInputs_rbound st.b now start _ hb h.rinv.nonempty hacc
    exact ⟨a, c⟩
  | ack m x _ _ => exact ⟨hb, rfl⟩
  | piggyAck x _ => exact ⟨hb, rfl⟩

/-- C18, remembered received inputs: along every schedule of the link the receiver's `recv_inputs` holds at
most `2 * max_prediction + 1` entries. -/
theorem RBound_run (S : SStream) (hsize : S.width ≤ 65535) (st st' : Link) (h : LInv S st) (hb : RBound st.b)
    (hrun : LStar S st st') :
    RBound st'.b ∧ st'.b.maxPrediction = st.b.maxPrediction ∧
    st'.b.recvInputs.length ≤ 2 * st.b.maxPrediction + 1 := by
  have key : RBound st'.b ∧ st'.b.maxPrediction = st.b.maxPrediction ∧ LInv S st' := by
    induction hrun with
    | refl => exact ⟨hb, rfl, h⟩
    | step st1 st2 _ hstep ih =>
      obtain ⟨hb1, hm1, hl1⟩ := ih
      obtain ⟨hb2, hm2⟩ := RBound_step S hsize st1 st2 hl1 hb1 hstep
      exact ⟨hb2, hm2.trans hm1, LInv_step S hsize st1 st2 hl1 hstep⟩
  refine ⟨key.1, key.2.1, ?_⟩
  have := RBound_length st'.b key.1
  rw [key.2.1] at this
  exact this

theorem RBound_new (handles : List Nat) (peerAddr numPlayers localPlayers maxPrediction dt dn fps : Nat)
    (desync : Option Nat) (magic now : Nat) :
    RBound (Endpoint.new handles peerAddr numPlayers localPlayers maxPrediction dt dn fps desync magic now) := by
  refine ⟨by simp [Endpoint.new, KSorted], ?_⟩
  intro p hp
  simp only [Endpoint.new, List.mem_singleton] at hp
  left
  rw [hp]
  exact ⟨rfl, by simp [Endpoint.new, Endpoint.lastRecvFrame]⟩

end Ggrs
