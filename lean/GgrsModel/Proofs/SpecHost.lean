/-
L-spechost: what the host hands to its spectators. For every call of
`send_confirmed_inputs_to_spectators` (rollback mode or lockstep, nobody disconnected): the frames
offered are the next spectator frame, the one after it, ... up to the confirmed frame, in order, one
by one, and each is the row of every player's real input of that frame.
-/
import GgrsModel.Proofs.Lockstep
import GgrsModel.Proofs.Calls

namespace Ggrs
open InputQueue

/-- The row of frame `f` as `send_input` receives it: every player's real input of frame `f`. -/
def rowMap (gh : Ghost) (N : Nat) (f : Nat) : List (Nat × PlayerInput) :=
  (List.range N).map fun h => (h, ⟨(f : Int), (gh.specs h).vals.getD f 0⟩)

/-- The frames offered to the spectators by one call, in order. -/
inductive Offers (gh : Ghost) (N : Nat) (now : Nat) : P2P → P2P → Prop
  | done (s : P2P) : Offers gh N now s s
  | step (s s1 s' : P2P) (f : Nat) : s.nextSpectatorFrame = (f : Int) →
      s.offerToSpectators now (rowMap gh N f) = .ok s1 → Offers gh N now s1 s' → Offers gh N now s s'

theorem zipIdx_map_swap (l : List PlayerInput) :
    (l.zipIdx.map fun (x : PlayerInput × Nat) => (x.2, x.1)) = (List.range l.length).map fun h => (h, rget l h) := by
  apply List.ext_getElem (by simp)
  intro i h1 h2
  simp only [List.getElem_map, List.getElem_zipIdx, List.getElem_range, Nat.zero_add]
  have hi : i < l.length := by simpa using h1
  rw [rget_eq_getElem _ _ hi]

namespace P2P

theorem offerToSpectators_nsf (s s' : P2P) (now : Nat) (inputMap : List (Nat × PlayerInput))
    (h : s.offerToSpectators now inputMap = .ok s') : s'.nextSpectatorFrame = s.nextSpectatorFrame + 1 := by
  obtain ⟨_, _, rfl⟩ := offerToSpectators_ok h
  rfl

theorem sendConfirmedLoop_succ {now : Nat} {confirmed : Frame} {k : Nat} {s s' : P2P}
    (h : sendConfirmedInputsToSpectators.loop now confirmed (k + 1) s = .ok s') :
    (¬ s.nextSpectatorFrame ≤ confirmed ∧ s' = s) ∨
    (s.nextSpectatorFrame ≤ confirmed ∧ ∃ inputs s1,
      s.sync.confirmedInputs s.nextSpectatorFrame s.localConnectStatus = .ok inputs ∧
      s.offerToSpectators now (inputs.zipIdx.map fun (x : PlayerInput × Nat) => (x.2, x.1)) = .ok s1 ∧
      s1.nextSpectatorFrame = s.nextSpectatorFrame + 1 ∧
      sendConfirmedInputsToSpectators.loop now confirmed k s1 = .ok s') := by
  simp only [sendConfirmedInputsToSpectators.loop] at h
  by_cases hc : s.nextSpectatorFrame ≤ confirmed
  · rw [if_pos hc] at h
    obtain ⟨inputs, hci, h⟩ := bind_ok h
    obtain ⟨_, h⟩ := ensure_bind_ok h
    obtain ⟨_, h⟩ := ensure_bind_ok h
    obtain ⟨s1, hoff, h⟩ := bind_ok h
    exact Or.inr ⟨hc, inputs, s1, hci, hoff, offerToSpectators_nsf _ _ _ _ hoff, h⟩
  · rw [if_neg hc] at h
    cases h
    exact Or.inl ⟨hc, rfl⟩

theorem sendConfirmedLoop_nsf (now : Nat) (confirmed : Frame) : ∀ (k : Nat) (s s' : P2P),
    sendConfirmedInputsToSpectators.loop now confirmed k s = .ok s' →
    s.nextSpectatorFrame ≤ s'.nextSpectatorFrame ∧ s'.nextSpectatorFrame ≤ max s.nextSpectatorFrame (confirmed + 1) := by
  intro k
  induction k with
  | zero => intro s s' h; cases h; exact ⟨Int.le_refl _, Int.le_max_left _ _⟩
  | succ k ih =>
    intro s s' h
    rcases sendConfirmedLoop_succ h with ⟨_, rfl⟩ | ⟨hc, _, s1, _, _, hn1, h⟩
    · exact ⟨Int.le_refl _, Int.le_max_left _ _⟩
    · have := ih s1 s' h
      omega

theorem sendConfirmed_ok {s s' : P2P} {now : Nat} {confirmed : Frame}
    (h : s.sendConfirmedInputsToSpectators now confirmed = .ok s') :
    s' = s ∨ sendConfirmedInputsToSpectators.loop now confirmed (confirmed - s.nextSpectatorFrame + 1).toNat s = .ok s' := by
  unfold sendConfirmedInputsToSpectators at h
  split at h
  · exact Or.inl (pure_ok h).symm
  · exact Or.inr h

theorem sendConfirmed_nsf {s s' : P2P} {now : Nat} {confirmed : Frame}
    (h : s.sendConfirmedInputsToSpectators now confirmed = .ok s') :
    s.nextSpectatorFrame ≤ s'.nextSpectatorFrame ∧ s'.nextSpectatorFrame ≤ max s.nextSpectatorFrame (confirmed + 1) := by
  rcases sendConfirmed_ok h with rfl | h
  · exact ⟨Int.le_refl _, Int.le_max_left _ _⟩
  · exact sendConfirmedLoop_nsf now confirmed _ s s' h

end P2P

theorem confirmedInputs_row (s : P2P) (gh : Ghost) (t0 : TLState) (reqs : List Request) (f : Nat)
    (inputs : List PlayerInput) (hs : SessInv s gh t0 reqs)
    (hle : ∀ p, p < s.sync.queues.length → (f : Int) ≤ (rget s.localConnectStatus p).lastFrame)
    (hci : s.sync.confirmedInputs (f : Int) s.localConnectStatus = .ok inputs) :
    (inputs.zipIdx.map fun (x : PlayerInput × Nat) => (x.2, x.1)) = rowMap gh s.sync.queues.length f := by
  have hN := hs.tinv.sync.nq
  obtain ⟨hlen, hpt⟩ := confirmedInputs_conn hs.tinv.sync.conn hci
  rw [zipIdx_map_swap, hlen, hN]
  unfold rowMap
  apply List.map_congr_left
  intro p hp
  have hp := List.mem_range.mp hp
  have hk := hpt p (by rw [hN]; exact hp)
  have hlast := hs.status p hp
  rw [lastAdded_of_QI (hs.tinv.sync.all p hp)] at hlast
  have := hle p hp
  rw [confirmedInput_ok _ _ (hs.tinv.sync.all p hp).ring f (by omega) _ hk]

theorem sendConfirmedLoop_rows (gh : Ghost) (t0 : TLState) (reqs : List Request) (now : Nat) (confirmed : Frame) :
    ∀ (fuel : Nat) (s s' : P2P), SessInv s gh t0 reqs → 0 ≤ s.nextSpectatorFrame →
    (∀ p, p < s.sync.queues.length → confirmed ≤ (rget s.localConnectStatus p).lastFrame) →
    P2P.sendConfirmedInputsToSpectators.loop now confirmed fuel s = .ok s' → Offers gh s.sync.queues.length now s s' := by
  intro fuel
  induction fuel with
  | zero => intro s s' _ _ _ h; cases h; exact Offers.done s
  | succ k ih =>
    intro s s' hs h0 hle h
    rcases P2P.sendConfirmedLoop_succ h with ⟨_, rfl⟩ | ⟨hc, inputs, s1, hci, hoff, hn1, h⟩
    · exact Offers.done _
    · obtain ⟨f, hf⟩ : ∃ f : Nat, s.nextSpectatorFrame = (f : Int) := ⟨s.nextSpectatorFrame.toNat, by omega⟩
      rw [hf] at hci
      rw [confirmedInputs_row s gh t0 reqs f inputs hs (fun p hp => by have := hle p hp; omega) hci] at hoff
      have hc1 := P2P.offerToSpectators_sameCore _ _ _ _ hoff
      have hs1 : SessInv s1 gh t0 reqs := SessInv_congr s s1 gh t0 reqs hs hc1.pred hc1.sync hc1.statuses hc1.handles
      have ho := ih s1 s' hs1 (by omega) (fun p hp => by rw [hc1.statuses]; rw [hc1.sync] at hp; exact hle p hp) h
      rw [hc1.sync] at ho
      exact Offers.step s s1 s' f hf hoff ho

/-- L-spechost, behind `C06_host_rows`: the header's claim as `Offers`; the call moves the cursor forwards,
at most to `confirmed + 1`. -/
theorem sendConfirmed_rows (s s' : P2P) (gh : Ghost) (t0 : TLState) (reqs : List Request) (now : Nat)
    (confirmed : Frame) (hs : SessInv s gh t0 reqs) (h0 : 0 ≤ s.nextSpectatorFrame)
    (hle : ∀ p, p < s.sync.queues.length → confirmed ≤ (rget s.localConnectStatus p).lastFrame)
    (h : s.sendConfirmedInputsToSpectators now confirmed = .ok s') :
    Offers gh s.sync.queues.length now s s' ∧ s.nextSpectatorFrame ≤ s'.nextSpectatorFrame ∧
    s'.nextSpectatorFrame ≤ max s.nextSpectatorFrame (confirmed + 1) := by
  refine ⟨?_, P2P.sendConfirmed_nsf h⟩
  rcases P2P.sendConfirmed_ok h with rfl | h
  · exact Offers.done _
  · exact sendConfirmedLoop_rows gh t0 reqs now confirmed _ s s' hs h0 hle h

namespace P2P

theorem queueOutgoing_nsf (s s' : P2P) (h : Nat) (inp : PlayerInput)
    (hq : s.queueOutgoingLocalInput h inp = .ok s') : s'.nextSpectatorFrame = s.nextSpectatorFrame := by
  rcases (queueOutgoingLocalInput_ok hq).2 with ⟨_, rfl⟩ | ⟨_, rfl⟩
  · rfl
  · rfl

theorem queueInitialBlanks_nsf (s s' : P2P) (h : Nat) (actual : Frame)
    (hq : s.queueInitialBlanks h actual = .ok s') : s'.nextSpectatorFrame = s.nextSpectatorFrame :=
  queueInitialBlanks_rel (StepRel.proj nextSpectatorFrame) queueOutgoing_nsf s s' h actual hq

theorem sendFrameToRemotes_nsf (s s' : P2P) (now : Nat) (frame : Frame) (inputs : List (Nat × PlayerInput))
    (h : s.sendFrameToRemotes now frame inputs = .ok s') : s'.nextSpectatorFrame = s.nextSpectatorFrame := by
  obtain ⟨_, _, rfl⟩ := sendFrameToRemotes_ok h
  rfl

theorem sendReady_nsf (s s' : P2P) (now : Nat) (h : s.sendReadyOutgoingInputsToRemotes now = .ok s') :
    s'.nextSpectatorFrame = s.nextSpectatorFrame :=
  sendReady_rel (StepRel.proj nextSpectatorFrame) sendFrameToRemotes_nsf s s' now h

theorem registerOne_nsf (s s' : P2P) (hd : Nat) (h : s.registerOne hd = .ok s') :
    s'.nextSpectatorFrame = s.nextSpectatorFrame := by
  obtain ⟨pi, sync, actual, _, _, hnull, hland⟩ := registerOne_ok h
  by_cases ha : actual = NULL_FRAME
  · rw [hnull ha]
  · obtain ⟨s2, hbl, hq⟩ := hland ha
    exact (queueOutgoing_nsf _ _ _ _ hq).trans (queueInitialBlanks_nsf { s with sync := sync } s2 _ _ hbl)

theorem registerLocalInputs_nsf (s s' : P2P) (now : Nat) (h : s.registerLocalInputs now = .ok s') :
    s'.nextSpectatorFrame = s.nextSpectatorFrame := by
  obtain ⟨s1, hfold, hsend⟩ := registerLocalInputs_ok h
  exact (sendReady_nsf _ _ _ hsend).trans
    (foldlM_rel (StepRel.proj nextSpectatorFrame) _ (fun a b c hh => registerOne_nsf a c b hh) _ s s1 hfold)

/-- The session's side towards the network: the spectator cursor, the inputs waiting to go out and
the last frame sent. The rollback phase, the gate and a remote input leave all three alone. -/
def netSide (s : P2P) := (s.nextSpectatorFrame, s.outgoingLocalInputs, s.lastSentOutgoingInputFrame)

theorem netSide_nsf {s s' : P2P} (h : s'.netSide = s.netSide) : s'.nextSpectatorFrame = s.nextSpectatorFrame :=
  congrArg (·.1) h

theorem netSide_out {s s' : P2P} (h : s'.netSide = s.netSide) :
    s'.outgoingLocalInputs = s.outgoingLocalInputs ∧ s'.lastSentOutgoingInputFrame = s.lastSentOutgoingInputFrame :=
  ⟨congrArg (·.2.1) h, congrArg (·.2.2) h⟩

theorem adjustGamestate_net {s s' : P2P} {fi mc : Frame} {reqs reqs' : List Request}
    (h : s.adjustGamestate fi mc reqs = .ok (s', reqs')) : s'.netSide = s.netSide := by
  obtain ⟨_, _, _, _, _, _, _, _, _, rfl⟩ := adjustGamestate_ok h
  rfl

theorem rollbackIfNeeded_net {s s' : P2P} {confirmed : Frame} {reqs reqs' : List Request}
    (h : s.rollbackIfNeeded confirmed reqs = .ok (s', reqs')) : s'.netSide = s.netSide := by
  rcases rollbackIfNeeded_ok h with ⟨_, rfl, _⟩ | ⟨_, s1, hadj, rfl⟩
  · rfl
  · exact adjustGamestate_net (s' := s1) hadj

theorem saveAfterRollback_net {s s' : P2P} {confirmed : Frame} {reqs reqs' : List Request}
    (h : s.saveAfterRollback confirmed reqs = .ok (s', reqs')) : s'.netSide = s.netSide := by
  rcases saveAfterRollback_ok h with ⟨_, _, rfl, _⟩ | ⟨_, sy, r, _, rfl, _⟩ | ⟨_, _, _, hadj⟩
  · rfl
  · rfl
  · exact adjustGamestate_net hadj

theorem handleRollbackAndSave_net {s s' : P2P} {confirmed : Frame} {reqs reqs' : List Request}
    (h : s.handleRollbackAndSave confirmed reqs = .ok (s', reqs')) : s'.netSide = s.netSide := by
  obtain ⟨s1, reqs1, h1, h2⟩ := handleRollbackAndSave_ok h
  exact (saveAfterRollback_net h2).trans (rollbackIfNeeded_net h1)

theorem rollbackGate_net {s s' : P2P} {reqs reqs' : List Request} (h : s.rollbackGate reqs = .ok (s', reqs')) :
    s'.netSide = s.netSide := by
  rcases rollbackGate_ok h with ⟨_, rfl, _⟩ | ⟨_, sy, ins, _, rfl, _⟩
  · rfl
  · rfl

theorem remoteInput_net {s s' : P2P} {now : Nat} {inp : PlayerInput} {player : Nat} {handles : List Nat} {addr : Nat}
    (hev : s.handleEventCore now (.input inp player) handles addr = .ok s') :
    s'.netSide = s.netSide ∧ ∀ p, p ≠ player → rget s'.localConnectStatus p = rget s.localConnectStatus p := by
  obtain ⟨_, hdead, hlive⟩ := handleEventCore_input_ok hev
  cases hd : (rget s.localConnectStatus player).disconnected
  · obtain ⟨_, _, _, rfl⟩ := hlive hd
    exact ⟨rfl, fun p hp => rget_rset_ne _ _ _ _ (fun e => hp e.symm)⟩
  · cases hdead hd
    exact ⟨rfl, fun _ _ => rfl⟩

theorem remoteInput_nsf (s s' : P2P) (now : Nat) (inp : PlayerInput) (player : Nat) (handles : List Nat) (addr : Nat)
    (hev : s.handleEventCore now (.input inp player) handles addr = .ok s') :
    s'.nextSpectatorFrame = s.nextSpectatorFrame :=
  netSide_nsf (remoteInput_net hev).1

theorem addLocalInput_nsf (s : P2P) (handle : Nat) (input : Input) :
    (s.addLocalInput handle input).1.nextSpectatorFrame = s.nextSpectatorFrame := by
  obtain ⟨l, hl⟩ := addLocalInput_pending s handle input
  rw [hl]

theorem advanceRollbackFrame_nsf {s s1 s2 s4 s' : P2P} {sy3 : SyncLayer} {now : Nat} {confirmed : Frame}
    {reqs reqs1 reqs' : List Request} (hrs : s.handleRollbackAndSave confirmed reqs = .ok (s1, reqs1))
    (hreg : ({ s2 with sync := sy3 } : P2P).registerLocalInputs now = .ok s4)
    (hgate : s4.rollbackGate reqs1 = .ok (s', reqs')) :
    s1.nextSpectatorFrame = s.nextSpectatorFrame ∧ s'.nextSpectatorFrame = s2.nextSpectatorFrame :=
  ⟨netSide_nsf (handleRollbackAndSave_net hrs),
    (netSide_nsf (rollbackGate_net hgate)).trans ((registerLocalInputs_nsf _ _ _ hreg).trans rfl)⟩

theorem advanceRollbackFrame_nsf_le {s s' : P2P} {now : Nat} {reqs reqs' : List Request}
    (hadv : s.advanceRollbackFrame now reqs = .ok (s', reqs')) : s.nextSpectatorFrame ≤ s'.nextSpectatorFrame := by
  obtain ⟨confirmed, s1, reqs1, s2, sy3, s4, _, hrs, hspec, _, hreg, hgate⟩ := advanceRollbackFrame_ok hadv
  obtain ⟨hn1, hn'⟩ := advanceRollbackFrame_nsf hrs hreg hgate
  rw [hn', ← hn1]
  exact (sendConfirmed_nsf hspec).1

end P2P

/-- One rollback-mode call, the spectators' side: between the rollback phase and the bookkeeping the call offers
its spectators the frames `next_spectator_frame ..= confirmed_frame`, each the row of real inputs; nothing else
in the call moves `next_spectator_frame`. -/
theorem rollbackTick_offers (s s' : P2P) (gh : Ghost) (t0 : TLState) (reqs reqs' : List Request) (now : Nat)
    (h : SessInv s gh t0 reqs) (h0 : 0 ≤ s.nextSpectatorFrame)
    (hadv : s.advanceRollbackFrame now reqs = .ok (s', reqs')) :
    ∃ (confirmed : Frame) (s1 s2 : P2P) (gh1 : Ghost), s.confirmedFrame = .ok confirmed ∧ gh1.specs = gh.specs ∧
      s1.nextSpectatorFrame = s.nextSpectatorFrame ∧ s1.sync.queues.length = s.sync.queues.length ∧
      Offers gh1 s.sync.queues.length now s1 s2 ∧
      s'.nextSpectatorFrame = s2.nextSpectatorFrame ∧
      s.nextSpectatorFrame ≤ s'.nextSpectatorFrame ∧
      s'.nextSpectatorFrame ≤ max s.nextSpectatorFrame (confirmed + 1) := by
  obtain ⟨confirmed, s1, reqs1, s2, sy3, s4, hconf, hrs, hspec, hset, hreg, hgate⟩ := P2P.advanceRollbackFrame_ok hadv
  obtain ⟨gh1, hsettled, _⟩ := handleRollbackAndSave_spec s s1 confirmed t0 reqs reqs1 gh h.tinv h.asked hrs
  have hinv1 := SessInv_of_settled s s1 gh gh1 t0 reqs reqs1 h hsettled
  obtain ⟨hn1, hn'⟩ := P2P.advanceRollbackFrame_nsf hrs hreg hgate
  have hle : ∀ p, p < s1.sync.queues.length → confirmed ≤ (rget s1.localConnectStatus p).lastFrame := by
    intro p hp
    rw [hsettled.statuses]
    apply confirmedFrame_le s confirmed hconf h.tinv.sync.conn
    rw [h.tinv.sync.nq, ← hsettled.nq]; exact hp
  obtain ⟨hoff, hb⟩ := sendConfirmed_rows s1 s2 gh1 t0 reqs1 now confirmed hinv1 (by rw [hn1]; exact h0) hle hspec
  rw [hsettled.nq] at hoff
  rw [hn1, ← hn'] at hb
  exact ⟨confirmed, s1, s2, gh1, hconf, hsettled.specs, hn1, hsettled.nq, hoff, hn', hb⟩

theorem SStep.nsf_le {x y : P2P × TLState} (hs : SStep x y) : x.1.nextSpectatorFrame ≤ y.1.nextSpectatorFrame := by
  cases hs with
  | remoteInput s s' t now inp player handles addr hnl hf hev =>
    exact Int.le_of_eq (P2P.remoteInput_nsf s s' now inp player handles addr hev).symm
  | tick s s' t now reqs' hadv => exact P2P.advanceRollbackFrame_nsf_le hadv
  | localInput s t handle input => exact Int.le_of_eq (P2P.addLocalInput_nsf s handle input).symm
  | saves s t sv => exact Int.le_refl _

theorem sstep_nsf_le (x y : P2P × TLState) (gh : Ghost) (_ : SessInv x.1 gh x.2 []) (_ : 0 ≤ x.1.nextSpectatorFrame)
    (hs : SStep x y) : x.1.nextSpectatorFrame ≤ y.1.nextSpectatorFrame :=
  hs.nsf_le

theorem nsf_run (x y : P2P × TLState) (h : ∃ gh, SessInv x.1 gh x.2 []) (h0 : 0 ≤ x.1.nextSpectatorFrame)
    (hr : SStar x y) : 0 ≤ y.1.nextSpectatorFrame := by
  induction hr with
  | refl => exact h0
  | step y z _ hs ih => exact Int.le_trans ih hs.nsf_le

end Ggrs
