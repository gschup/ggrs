/-
L-glue: what the owner of a player hands to its remote endpoints. The outgoing queue
(`outgoing_local_inputs`, a map frame → (handle → input)) only ever holds the owner's own queue
contents, and every frame `send_ready_outgoing_inputs_to_remotes` hands to the endpoints is, for
every local player, exactly the input that player's queue holds for that frame — fills and the
blank frames in front of a delayed first input included.
-/
import GgrsModel.Proofs.SpecHost
import GgrsModel.Proofs.Calls
import GgrsModel.Proofs.Assoc

namespace Ggrs
open InputQueue

/-- `a <+: b`, stated through `getD · 0`: that is how `OutOk` and the invariants built on it read the
entries of a stream. -/
def PrefixOf (a b : List Input) : Prop := a.length ≤ b.length ∧ ∀ f, f < a.length → b.getD f 0 = a.getD f 0

theorem PrefixOf.refl (a : List Input) : PrefixOf a a := ⟨Nat.le_refl _, fun _ _ => rfl⟩

theorem PrefixOf.trans {a b c : List Input} (h1 : PrefixOf a b) (h2 : PrefixOf b c) : PrefixOf a c :=
  ⟨Nat.le_trans h1.1 h2.1, fun f hf => by rw [h2.2 f (by have := h1.1; omega), h1.2 f hf]⟩

theorem PrefixOf_append (a ext : List Input) : PrefixOf a (a ++ ext) :=
  ⟨by simp, fun f hf => by simp [List.getD_eq_getElem?_getD, List.getElem?_append_left hf]⟩

theorem getD_of_prefix (a S : List Input) (h : a <+: S) (f : Nat) (hf : f < a.length) : a.getD f 0 = S.getD f 0 := by
  obtain ⟨t, rfl⟩ := h
  exact ((PrefixOf_append a t).2 f hf).symm

theorem ring_read {q : InputQueue} {s : QSpec} (h : Refines q s) {f : Nat} {v : Input}
    (hle : (f : Int) ≤ q.lastAddedFrame) (hwin : q.lastAddedFrame < (f : Int) + INPUT_QUEUE_LENGTH)
    (hslot : rget q.inputs (f % INPUT_QUEUE_LENGTH) = ⟨(f : Int), v⟩) :
    f < s.vals.length ∧ s.vals.getD f 0 = v := by
  rw [h.lastAdded] at hle hwin
  have hf : f < s.vals.length := by omega
  have e := h.slots f hf (by omega)
  rw [hslot] at e
  exact ⟨hf, (congrArg PlayerInput.input e).symm⟩

/-- Every queued outgoing input is the owner's queue content: the entry for frame `f` and handle
`h` is the input of frame `f` in `h`'s stream. -/
def OutOk (s : P2P) (gh : Ghost) : Prop :=
  ∀ f m, alookup f s.outgoingLocalInputs = some m → 0 ≤ f ∧ ∀ x ∈ m, x.1 ∈ s.localPlayerHandles ∧
    f.toNat < (gh.specs x.1).vals.length ∧ x.2 = ⟨f, (gh.specs x.1).vals.getD f.toNat 0⟩

theorem OutOk_grow (s : P2P) (gh gh' : Ghost) (h : OutOk s gh)
    (hg : ∀ p, PrefixOf (gh.specs p).vals (gh'.specs p).vals) : OutOk s gh' := by
  intro f m hl
  obtain ⟨h0, hm⟩ := h f m hl
  refine ⟨h0, fun x hx => ?_⟩
  obtain ⟨a, b, c⟩ := hm x hx
  refine ⟨a, by have := (hg x.1).1; omega, ?_⟩
  rw [c, (hg x.1).2 _ b]

theorem OutOk_congr (s s' : P2P) (gh : Ghost) (h : OutOk s gh) (ho : s'.outgoingLocalInputs = s.outgoingLocalInputs)
    (hh : s'.handles = s.handles) : OutOk s' gh := by
  intro f m hl
  rw [ho] at hl
  rw [P2P.localPlayerHandles_congr hh]
  exact h f m hl

theorem queueOutgoing_out (s s' : P2P) (gh : Ghost) (h : Nat) (inp : PlayerInput) (ho : OutOk s gh)
    (hloc : h ∈ s.localPlayerHandles) (h0 : 0 ≤ inp.frame) (hlt : inp.frame.toNat < (gh.specs h).vals.length)
    (hv : inp.input = (gh.specs h).vals.getD inp.frame.toNat 0)
    (hq : s.queueOutgoingLocalInput h inp = .ok s') :
    OutOk s' gh ∧ s'.handles = s.handles ∧ s'.lastSentOutgoingInputFrame = s.lastSentOutgoingInputFrame := by
  rcases (P2P.queueOutgoingLocalInput_ok hq).2 with ⟨_, rfl⟩ | ⟨_, rfl⟩
  · exact ⟨ho, rfl, rfl⟩
  · refine ⟨fun f m hl => ?_, rfl, rfl⟩
    show 0 ≤ f ∧ ∀ x ∈ m, x.1 ∈ s.localPlayerHandles ∧ _
    simp only at hl
    by_cases hf : f = inp.frame
    · subst hf
      rw [alookup_ainsert_self] at hl
      cases hl
      refine ⟨h0, fun x hx => ?_⟩
      rcases List.mem_append.mp hx with hx1 | hx1
      · have hx2 := (List.mem_filter.mp hx1).1
        cases hlk : alookup inp.frame s.outgoingLocalInputs with
        | none => rw [hlk] at hx2; simp at hx2
        | some m0 =>
          rw [hlk] at hx2
          exact (ho inp.frame m0 hlk).2 x hx2
      · simp only [List.mem_singleton] at hx1
        subst hx1
        exact ⟨hloc, hlt, by rw [← hv]⟩
    · rw [alookup_ainsert_ne _ _ _ hf] at hl
      exact ho f m hl

theorem submit_vals_prefix (s : QSpec) (uf : Int) (v : Input) : PrefixOf s.vals (s.submit uf v).1.vals := by
  rcases submit_cases s uf v with ⟨_, hv⟩ | ⟨_, _, hv⟩
  · rw [hv]; exact PrefixOf.refl _
  · rw [hv, List.append_assoc]; exact PrefixOf_append _ _

theorem submit_landed (s : QSpec) (uf : Int) (v : Input) (h0 : 0 ≤ uf) (hne : (s.submit uf v).2 ≠ NULL_FRAME) :
    0 ≤ (s.submit uf v).2 ∧ ((s.submit uf v).1.vals.length : Int) = (s.submit uf v).2 + 1 ∧
    (s.submit uf v).1.vals.getD (s.submit uf v).2.toNat 0 = v ∧ PrefixOf s.vals (s.submit uf v).1.vals ∧
    (s.vals = [] → ∀ f, f < (s.submit uf v).2.toNat → (s.submit uf v).1.vals.getD f 0 = 0) := by
  rcases submit_cases s uf v with ⟨he, _⟩ | ⟨hle, hfr, hv⟩
  · exact absurd he hne
  have hk : (s.vals ++ List.replicate (uf + (s.delay : Int) - (s.vals.length : Int)).toNat s.lastVal).length
      = (uf + (s.delay : Int)).toNat := by
    rw [List.length_append, List.length_replicate, Nat.add_comm, ← Int.toNat_add_nat (Int.sub_nonneg_of_le hle),
      Int.sub_add_cancel]
  have hnn : 0 ≤ uf + (s.delay : Int) := Int.add_nonneg h0 (Int.natCast_nonneg _)
  refine ⟨hfr ▸ hnn, ?_, ?_, submit_vals_prefix s uf v, ?_⟩
  · rw [hfr, hv, List.length_append, hk, List.length_singleton, Int.natCast_add, Int.toNat_of_nonneg hnn]
    rfl
  · rw [hfr, hv, ← hk]
    exact getD_append_eq _ _
  · intro hnil f hf
    have hlv : s.lastVal = 0 := by simp [QSpec.lastVal, hnil]
    rw [hfr, ← hk] at hf
    rw [hv, getD_append_lt _ _ _ hf, hnil, hlv, List.nil_append, List.getD_eq_getElem?_getD, List.getElem?_replicate]
    split <;> rfl

theorem submit_dropped (s : QSpec) (uf : Int) (v : Input) (he : (s.submit uf v).2 = NULL_FRAME) (h0 : 0 ≤ uf) :
    (s.submit uf v).1.vals = s.vals := by
  rcases submit_cases s uf v with ⟨_, hv⟩ | ⟨_, hfr, _⟩
  · exact hv
  · rw [hfr] at he
    exact absurd he (Int.ne_of_gt (Int.lt_of_lt_of_le (by decide) (Int.add_nonneg h0 (Int.natCast_nonneg _))))

theorem queueBlanks_out (gh : Ghost) (h : Nat) : ∀ (l : List Nat) (s s' : P2P), OutOk s gh → h ∈ s.localPlayerHandles →
    (∀ f ∈ l, f < (gh.specs h).vals.length ∧ (gh.specs h).vals.getD f 0 = 0) →
    l.foldlM (fun s (f : Nat) => s.queueOutgoingLocalInput h (PlayerInput.blank f)) s = .ok s' →
    OutOk s' gh ∧ s'.handles = s.handles ∧ s'.lastSentOutgoingInputFrame = s.lastSentOutgoingInputFrame := by
  intro l
  induction l with
  | nil =>
    intro s s' ho _ _ hf
    cases pure_ok hf
    exact ⟨ho, rfl, rfl⟩
  | cons f rest ih =>
    intro s s' ho hloc hl hf
    simp only [List.foldlM_cons] at hf
    obtain ⟨s1, h1, hf⟩ := bind_ok hf
    obtain ⟨hlt, hv⟩ := hl f List.mem_cons_self
    obtain ⟨ho1, hh1, hs1⟩ := queueOutgoing_out s s1 gh h (PlayerInput.blank f) ho hloc
      (by show (0 : Int) ≤ (f : Int); exact Int.natCast_nonneg _)
      (by show ((f : Int)).toNat < _; simpa using hlt)
      (by show (0 : Input) = (gh.specs h).vals.getD ((f : Int)).toNat 0; rw [Int.toNat_natCast, hv]) h1
    obtain ⟨ho2, hh2, hs2⟩ := ih s1 s' ho1 (by rw [P2P.localPlayerHandles_congr hh1]; exact hloc)
      (fun g hg => hl g (List.mem_cons_of_mem _ hg)) hf
    exact ⟨ho2, hh2.trans hh1, hs2.trans hs1⟩

/-- The glue invariant: the outgoing queue holds queue contents only, and a local player's status
names the newest frame its queue holds. -/
structure GlueInv (s : P2P) (gh : Ghost) : Prop where
  out : OutOk s gh
  top : ∀ p, p ∈ s.localPlayerHandles → p < s.sync.queues.length →
    (rget s.localConnectStatus p).lastFrame = ((gh.specs p).vals.length : Int) - 1

theorem GlueInv_transferL (s s' : P2P) (gh gh' : Ghost) (h : GlueInv s gh)
    (ho : s'.outgoingLocalInputs = s.outgoingLocalInputs) (hh : s'.handles = s.handles)
    (hst : ∀ p, p ∈ s.localPlayerHandles → rget s'.localConnectStatus p = rget s.localConnectStatus p)
    (hq : s'.sync.queues.length = s.sync.queues.length)
    (hs : ∀ p, p ∈ s.localPlayerHandles → gh'.specs p = gh.specs p) : GlueInv s' gh' := by
  have hlp := P2P.localPlayerHandles_congr hh
  refine ⟨?_, ?_⟩
  · intro f m hl
    rw [ho] at hl
    obtain ⟨a, b⟩ := h.out f m hl
    refine ⟨a, fun x hx => ?_⟩
    obtain ⟨b1, b2, b3⟩ := b x hx
    rw [hlp, hs x.1 b1]
    exact ⟨b1, b2, b3⟩
  · intro p hp hpq
    rw [hlp] at hp
    rw [hst p hp, hs p hp]
    exact h.top p hp (by rw [← hq]; exact hpq)

theorem GlueInv_transfer (s s' : P2P) (gh gh' : Ghost) (h : GlueInv s gh)
    (ho : s'.outgoingLocalInputs = s.outgoingLocalInputs) (hh : s'.handles = s.handles)
    (hst : s'.localConnectStatus = s.localConnectStatus) (hq : s'.sync.queues.length = s.sync.queues.length)
    (hs : gh'.specs = gh.specs) : GlueInv s' gh' :=
  GlueInv_transferL s s' gh gh' h ho hh (fun _ _ => by rw [hst]) hq (fun _ _ => by rw [hs])

theorem GlueInv_touch (s s' : P2P) (gh gh' : Ghost) (hd : Nat) (h : GlueInv s gh) (ho : OutOk s' gh')
    (hh : s'.handles = s.handles) (hq : s'.sync.queues.length = s.sync.queues.length)
    (hst : ∀ p, p ≠ hd → rget s'.localConnectStatus p = rget s.localConnectStatus p)
    (hs : ∀ p, p ≠ hd → gh'.specs p = gh.specs p)
    (htop : (rget s'.localConnectStatus hd).lastFrame = ((gh'.specs hd).vals.length : Int) - 1) : GlueInv s' gh' := by
  refine ⟨ho, fun p hp hpq => ?_⟩
  by_cases hpe : p = hd
  · rw [hpe]; exact htop
  · rw [hst p hpe, hs p hpe]
    exact h.top p (by rw [← P2P.localPlayerHandles_congr hh]; exact hp) (by rw [← hq]; exact hpq)

/-- The ghost after one local player's registration. -/
def ghAfter (gh : Ghost) (hd : Nat) (pi : PlayerInput) : Ghost :=
  { gh with specs := fun i => if i = hd then ((gh.specs hd).submit pi.frame pi.input).1 else gh.specs i }

theorem ghAfter_self (gh : Ghost) (hd : Nat) (pi : PlayerInput) :
    (ghAfter gh hd pi).specs hd = ((gh.specs hd).submit pi.frame pi.input).1 := if_pos rfl

theorem ghAfter_ne (gh : Ghost) (hd : Nat) (pi : PlayerInput) (p : Nat) (hp : p ≠ hd) :
    (ghAfter gh hd pi).specs p = gh.specs p := if_neg hp

theorem ghAfter_prefix (gh : Ghost) (hd : Nat) (pi : PlayerInput) (p : Nat) :
    PrefixOf (gh.specs p).vals ((ghAfter gh hd pi).specs p).vals := by
  by_cases hp : p = hd
  · rw [hp, ghAfter_self]; exact submit_vals_prefix _ _ _
  · rw [ghAfter_ne gh hd pi p hp]; exact PrefixOf.refl _

theorem queueInitialBlanks_out (s s' : P2P) (gh : Ghost) (h : Nat) (actual : Frame) (ho : OutOk s gh)
    (hloc : h ∈ s.localPlayerHandles)
    (hb : (rget s.localConnectStatus h).lastFrame = NULL_FRAME → ∀ f, f < actual.toNat →
      f < (gh.specs h).vals.length ∧ (gh.specs h).vals.getD f 0 = 0)
    (hq : s.queueInitialBlanks h actual = .ok s') :
    OutOk s' gh ∧ s'.handles = s.handles ∧ s'.lastSentOutgoingInputFrame = s.lastSentOutgoingInputFrame := by
  unfold P2P.queueInitialBlanks at hq
  split at hq
  · rename_i hnull
    exact queueBlanks_out gh h _ s s' ho hloc (fun f hf => hb (by simpa using hnull) f (List.mem_range.mp hf)) hq
  · cases pure_ok hq; exact ⟨ho, rfl, rfl⟩

theorem toNat_lt_of_succ {fr : Int} {n : Nat} (h0 : 0 ≤ fr) (h1 : (n : Int) = fr + 1) : fr.toNat < n := by
  omega

/-- One local player's registration, the outgoing side. Of the player's queue it needs one fact only:
`add_input` reports the frame on which the stream says the submission lands. -/
theorem registerOne_out (s s' : P2P) (gh : Ghost) (hd : Nat) (hcur0 : 0 ≤ s.sync.currentFrame)
    (hlen : s.localConnectStatus.length = s.sync.queues.length)
    (hfr : hd < s.sync.queues.length → ∀ v q' fr, (rget s.sync.queues hd).addInput ⟨s.sync.currentFrame, v⟩ = .ok (q', fr) →
      fr = ((gh.specs hd).submit s.sync.currentFrame v).2)
    (hg : GlueInv s gh) (hloc : hd ∈ s.localPlayerHandles) (hreg : s.registerOne hd = .ok s') :
    ∃ pi, s.pendingInputOf hd = .ok pi ∧ 0 ≤ pi.frame ∧ GlueInv s' (ghAfter gh hd pi) ∧ s'.handles = s.handles ∧
      s'.lastSentOutgoingInputFrame = s.lastSentOutgoingInputFrame ∧
      s'.sync.queues.length = s.sync.queues.length := by
  obtain ⟨pi, _, fr, hpi, hadd, hnull, hland⟩ := P2P.registerOne_ok hreg
  obtain ⟨hpf, hp, q', haq, rfl⟩ := SyncLayer.addLocalInput_ok hadd
  have h0 : 0 ≤ pi.frame := by rw [hpf]; exact hcur0
  have hfrs : fr = ((gh.specs hd).submit pi.frame pi.input).2 := by
    rw [hpf]; exact hfr hp pi.input q' fr (by rw [← hpf]; exact haq)
  have ho1 : OutOk ({ s with sync := { s.sync with queues := rset s.sync.queues hd q' } } : P2P) (ghAfter gh hd pi) :=
    OutOk_congr s _ _ (OutOk_grow s gh _ hg.out (ghAfter_prefix gh hd pi)) rfl rfl
  have htop := hg.top hd hloc hp
  refine ⟨pi, hpi, h0, ?_⟩
  by_cases hact : fr = NULL_FRAME
  · cases hnull hact
    have hvals := submit_dropped (gh.specs hd) pi.frame pi.input (by rw [← hfrs]; exact hact) h0
    refine ⟨GlueInv_touch s _ gh _ hd hg ho1 rfl (rset_length _ _ _) (fun _ _ => rfl) (ghAfter_ne gh hd pi) ?_,
      rfl, rfl, rset_length _ _ _⟩
    rw [ghAfter_self, hvals]
    exact htop
  · obtain ⟨s2, hbl, hreg⟩ := hland hact
    obtain ⟨l0, l1, l2, _, l4⟩ := submit_landed (gh.specs hd) pi.frame pi.input h0 (by rw [← hfrs]; exact hact)
    rw [← hfrs] at l0 l1 l2 l4
    rw [← ghAfter_self] at l1 l2 l4
    have hc1 := P2P.queueInitialBlanks_sameCore _ _ _ _ hbl
    obtain ⟨ho2, hh2, hs2⟩ := queueInitialBlanks_out _ s2 _ hd fr ho1 hloc (fun hnull f hf => by
      have hempty : (gh.specs hd).vals = [] := List.length_eq_zero_iff.mp <| Classical.byContradiction fun hn =>
        int_pred_ne_neg_one _ hn (htop.symm.trans hnull)
      exact ⟨Nat.lt_trans hf (toNat_lt_of_succ l0 l1), l4 hempty f hf⟩) hbl
    have hc3 := P2P.queueOutgoing_sameCore _ _ _ _ hreg
    obtain ⟨ho3, hh3, hs3⟩ := queueOutgoing_out (s2.setStatus hd fun c => { c with lastFrame := fr }) s' _ hd
      ⟨fr, pi.input⟩ (OutOk_congr s2 _ _ ho2 rfl rfl) (by rw [P2P.localPlayerHandles_congr (s' := s2.setStatus hd _) hh2]; exact hloc) l0
      (toNat_lt_of_succ l0 l1) l2.symm hreg
    have hst : s'.localConnectStatus = rset s.localConnectStatus hd { rget s.localConnectStatus hd with lastFrame := fr } := by
      rw [hc3.statuses]; show rset s2.localConnectStatus hd _ = _; rw [hc1.statuses]
    have hq : s'.sync.queues.length = s.sync.queues.length := by
      rw [hc3.sync]; show s2.sync.queues.length = _; rw [hc1.sync]; exact rset_length _ _ _
    refine ⟨GlueInv_touch s s' gh _ hd hg ho3 (hh3.trans hh2) hq ?_ (ghAfter_ne gh hd pi) ?_, hh3.trans hh2, hs3.trans hs2, hq⟩
    · intro p hpe
      rw [hst, rget_rset_ne _ _ _ _ (fun e => hpe e.symm)]
    · rw [hst, rget_rset_eq _ _ _ (by rw [hlen]; exact hp), l1, Int.add_sub_cancel]

theorem registerOne_glue (s s' : P2P) (gh : Ghost) (t0 : TLState) (reqs : List Request) (hd : Nat)
    (h : SessInv s gh t0 reqs) (hg : GlueInv s gh) (hloc : hd ∈ s.localPlayerHandles)
    (hreg : s.registerOne hd = .ok s') :
    ∃ pi, s.pendingInputOf hd = .ok pi ∧ 0 ≤ pi.frame ∧ GlueInv s' (ghAfter gh hd pi) ∧ s'.handles = s.handles ∧
      s'.lastSentOutgoingInputFrame = s.lastSentOutgoingInputFrame ∧
      s'.sync.queues.length = s.sync.queues.length :=
  registerOne_out s s' gh hd h.tinv.sync.cur h.tinv.sync.nq
    (fun hp _ _ _ hadd => (QI_add _ _ _ _ _ _ _ _ _ _ (h.tinv.sync.all hd hp) (h.asked hd hp) hadd).2.2) hg hloc hreg

theorem registerFold_glueX (t0 : TLState) (reqs : List Request) : ∀ (l : List Nat) (s s' : P2P) (gh : Ghost),
    SessInv s gh t0 reqs → GlueInv s gh → (∀ x ∈ l, x ∈ s.localPlayerHandles) → l.foldlM P2P.registerOne s = .ok s' →
    ∃ gh', SessInv s' gh' t0 reqs ∧ GlueInv s' gh' ∧ RegKeeps s s' gh gh' ∧
      s'.lastSentOutgoingInputFrame = s.lastSentOutgoingInputFrame ∧
      (∀ p, PrefixOf (gh.specs p).vals (gh'.specs p).vals) ∧ ∀ p, p ∉ l → gh'.specs p = gh.specs p := by
  intro l
  induction l with
  | nil =>
    intro s s' gh h hg _ hf
    cases pure_ok hf
    exact ⟨gh, h, hg, RegKeeps.refl s gh, rfl, fun _ => PrefixOf.refl _, fun _ _ => rfl⟩
  | cons a rest ih =>
    intro s s' gh h hg hl hf
    simp only [List.foldlM_cons] at hf
    obtain ⟨s1, h1, hf⟩ := bind_ok hf
    have hla := hl a List.mem_cons_self
    obtain ⟨gh1, hinv1, hT1, hc1, hh1, hp1, hsp1, hm1, hn1, hlc1, hgr1, pi, hpi, hspecs⟩ :=
      registerOne_spec s s1 gh t0 reqs a h hla h1
    obtain ⟨pi', hpi', _, hg1, _, hls1, _⟩ := registerOne_glue s s1 gh t0 reqs a h hg hla h1
    cases hpi.symm.trans hpi'
    have hs1 : gh1.specs = (ghAfter gh a pi).specs := hspecs
    obtain ⟨gh', hinv', hg', hk, hls, hpre, hoth⟩ := ih s1 s' gh1 hinv1
      (GlueInv_transfer s1 s1 _ gh1 hg1 rfl rfl rfl rfl hs1)
      (fun x hx => by rw [P2P.localPlayerHandles_congr hh1]; exact hl x (List.mem_cons_of_mem _ hx)) hf
    refine ⟨gh', hinv', hg', RegKeeps.trans ⟨hT1, hc1, hh1, hp1, hsp1, hm1, hn1, hlc1, hgr1⟩ hk, hls.trans hls1, ?_, ?_⟩
    · intro p
      have h1p := ghAfter_prefix gh a pi p
      rw [← hs1] at h1p
      exact h1p.trans (hpre p)
    · intro p hp
      rw [hoth p (fun hx => hp (List.mem_cons_of_mem _ hx)), hs1]
      exact ghAfter_ne gh a pi p (fun e => hp (e ▸ List.mem_cons_self))

theorem registerFold_glue (t0 : TLState) (reqs : List Request) (l : List Nat) (s s' : P2P) (gh : Ghost)
    (h : SessInv s gh t0 reqs) (hg : GlueInv s gh) (hl : ∀ x ∈ l, x ∈ s.localPlayerHandles)
    (hf : l.foldlM P2P.registerOne s = .ok s') :
    ∃ gh', SessInv s' gh' t0 reqs ∧ GlueInv s' gh' ∧ RegKeeps s s' gh gh' ∧
      s'.lastSentOutgoingInputFrame = s.lastSentOutgoingInputFrame ∧
      ∀ p, PrefixOf (gh.specs p).vals (gh'.specs p).vals := by
  obtain ⟨gh', a, b, c, d, e, _⟩ := registerFold_glueX t0 reqs l s s' gh h hg hl hf
  exact ⟨gh', a, b, c, d, e⟩

/-- The frames handed to the remote endpoints by one call, in order: each is the next frame after
the last one sent, and carries — for the local players it names — the inputs their queues hold. -/
inductive Sends (gh : Ghost) (now : Nat) : P2P → P2P → Prop
  | done (s : P2P) : Sends gh now s s
  | step (s s1 s' : P2P) (f : Frame) (m : List (Nat × PlayerInput)) :
      alookup f s.outgoingLocalInputs = some m →
      (s.lastSentOutgoingInputFrame ≠ NULL_FRAME → f = s.lastSentOutgoingInputFrame + 1 ∧
        ∀ h ∈ s.localPlayerHandles, ∃ x ∈ m, x.1 = h) →
      (0 ≤ f ∧ ∀ x ∈ m, x.1 ∈ s.localPlayerHandles ∧ f.toNat < (gh.specs x.1).vals.length ∧
        x.2 = ⟨f, (gh.specs x.1).vals.getD f.toNat 0⟩) →
      s.sendFrameToRemotes now f m = .ok s1 → s1.lastSentOutgoingInputFrame = f → Sends gh now s1 s' → Sends gh now s s'

theorem sendFrame_glue (s s' : P2P) (gh : Ghost) (now : Nat) (f : Frame) (m : List (Nat × PlayerInput))
    (hg : GlueInv s gh) (h : s.sendFrameToRemotes now f m = .ok s') :
    GlueInv s' gh ∧ s'.lastSentOutgoingInputFrame = f ∧ s'.handles = s.handles := by
  obtain ⟨_, _, rfl⟩ := P2P.sendFrameToRemotes_ok h
  refine ⟨⟨fun g m' hl => ?_, hg.top⟩, rfl, rfl⟩
  have hl' : alookup g (aerase f s.outgoingLocalInputs) = some m' := hl
  unfold aerase at hl'
  rw [alookup_filter_key (fun k => k != f)] at hl'
  split at hl'
  · exact hg.out g m' hl'
  · cases hl'

theorem nextComplete_succ (s : P2P) (lh : List Nat) (frame : Frame) (m : List (Nat × PlayerInput))
    (hnx : s.nextCompleteOutgoingInputFrame lh = some frame) (hlk : alookup frame s.outgoingLocalInputs = some m)
    (hne : s.lastSentOutgoingInputFrame ≠ NULL_FRAME) :
    frame = s.lastSentOutgoingInputFrame + 1 ∧ ∀ h ∈ lh, ∃ x ∈ m, x.1 = h := by
  unfold P2P.nextCompleteOutgoingInputFrame at hnx
  have hne' : (s.lastSentOutgoingInputFrame == NULL_FRAME) = false := by simpa using hne
  simp only [hne', Bool.false_eq_true, if_false] at hnx
  cases hl2 : alookup (s.lastSentOutgoingInputFrame + 1) s.outgoingLocalInputs with
  | none => rw [hl2] at hnx; cases hnx
  | some inputs2 =>
    rw [hl2] at hnx
    simp only at hnx
    split at hnx
    · rename_i hcomp
      cases hnx
      rw [hl2] at hlk
      cases hlk
      refine ⟨rfl, fun hd hhd => ?_⟩
      obtain ⟨x, hx, hxe⟩ := List.any_eq_true.mp (List.all_eq_true.mp hcomp hd hhd)
      exact ⟨x, hx, by simpa using hxe⟩
    · cases hnx

theorem sendReadyLoop_glue (gh : Ghost) (now : Nat) : ∀ (fuel : Nat) (s s' : P2P), GlueInv s gh →
    P2P.sendReadyOutgoingInputsToRemotes.loop now s.localPlayerHandles fuel s = .ok s' →
    Sends gh now s s' ∧ GlueInv s' gh ∧ s'.handles = s.handles := by
  intro fuel
  induction fuel with
  | zero =>
    intro s s' hg h
    cases h
    exact ⟨Sends.done s, hg, rfl⟩
  | succ k ih =>
    intro s s' hg h
    simp only [P2P.sendReadyOutgoingInputsToRemotes.loop] at h
    cases hnx : s.nextCompleteOutgoingInputFrame s.localPlayerHandles with
    | none =>
      rw [hnx] at h
      cases h
      exact ⟨Sends.done s, hg, rfl⟩
    | some frame =>
      rw [hnx] at h
      simp only at h
      cases hlk : alookup frame s.outgoingLocalInputs with
      | none =>
        rw [hlk] at h
        obtain ⟨_, hin, _⟩ := bind_ok h
        cases hin
      | some m =>
        rw [hlk] at h
        obtain ⟨s1, hsend, h⟩ := bind_ok (m := s.sendFrameToRemotes now frame m) h
        obtain ⟨hg1, hls1, hh1⟩ := sendFrame_glue s s1 gh now frame m hg hsend
        rw [← P2P.localPlayerHandles_congr hh1] at h
        obtain ⟨hs, hg', hh'⟩ := ih s1 s' hg1 h
        exact ⟨Sends.step s s1 s' frame m hlk (nextComplete_succ s _ frame m hnx hlk) (hg.out frame m hlk) hsend hls1 hs,
          hg', hh'.trans hh1⟩

theorem sendReady_glue (s s' : P2P) (gh : Ghost) (now : Nat) (hg : GlueInv s gh)
    (h : s.sendReadyOutgoingInputsToRemotes now = .ok s') : Sends gh now s s' ∧ GlueInv s' gh := by
  unfold P2P.sendReadyOutgoingInputsToRemotes at h
  split at h
  · cases pure_ok h; exact ⟨Sends.done _, hg⟩
  · simp only at h
    split at h
    · cases pure_ok h; exact ⟨Sends.done _, hg⟩
    · obtain ⟨hs, hg', _⟩ := sendReadyLoop_glue gh now _ s s' hg h
      exact ⟨hs, hg'⟩

/-- `register_local_inputs`: every local player's pending input goes into its queue and into the
outgoing queue; then the frames that are complete are handed to the remotes. -/
theorem registerLocalInputs_glueX (s s' : P2P) (gh : Ghost) (t0 : TLState) (reqs : List Request) (now : Nat)
    (h : SessInv s gh t0 reqs) (hg : GlueInv s gh) (hreg : s.registerLocalInputs now = .ok s') :
    ∃ (gh' : Ghost) (s1 : P2P), SessInv s' gh' t0 reqs ∧ GlueInv s' gh' ∧ RegKeeps s s' gh gh' ∧
      s1.lastSentOutgoingInputFrame = s.lastSentOutgoingInputFrame ∧ Sends gh' now s1 s' ∧
      (∀ p, PrefixOf (gh.specs p).vals (gh'.specs p).vals) ∧
      ∀ p, p ∉ s.localPlayerHandles → gh'.specs p = gh.specs p := by
  obtain ⟨s1, hfold, hsend⟩ := P2P.registerLocalInputs_ok hreg
  obtain ⟨gh', hinv1, hg1, hk, hls, hpre, hoth⟩ := registerFold_glueX t0 reqs _ s s1 gh h hg (fun x hx => hx) hfold
  have hc := P2P.sendReady_sameCore _ _ _ hsend
  obtain ⟨hs, hg'⟩ := sendReady_glue s1 s' gh' now hg1 hsend
  exact ⟨gh', s1, SessInv_congr s1 s' gh' t0 reqs hinv1 hc.pred hc.sync hc.statuses hc.handles, hg',
    hk.trans (RegKeeps.of_sameCore gh' hc), hls, hs, hpre, hoth⟩

theorem registerLocalInputs_glue (s s' : P2P) (gh : Ghost) (t0 : TLState) (reqs : List Request) (now : Nat)
    (h : SessInv s gh t0 reqs) (hg : GlueInv s gh) (hreg : s.registerLocalInputs now = .ok s') :
    ∃ (gh' : Ghost) (s1 : P2P), SessInv s' gh' t0 reqs ∧ GlueInv s' gh' ∧ RegKeeps s s' gh gh' ∧
      s1.lastSentOutgoingInputFrame = s.lastSentOutgoingInputFrame ∧ Sends gh' now s1 s' ∧
      ∀ p, PrefixOf (gh.specs p).vals (gh'.specs p).vals := by
  obtain ⟨gh', s1, a, b, c, d, e, f, _⟩ := registerLocalInputs_glueX s s' gh t0 reqs now h hg hreg
  exact ⟨gh', s1, a, b, c, d, e, f⟩

namespace P2P

theorem handleRollbackAndSave_out (s s' : P2P) (confirmed : Frame) (reqs reqs' : List Request)
    (h : s.handleRollbackAndSave confirmed reqs = .ok (s', reqs')) :
    s'.outgoingLocalInputs = s.outgoingLocalInputs ∧ s'.lastSentOutgoingInputFrame = s.lastSentOutgoingInputFrame :=
  netSide_out (handleRollbackAndSave_net h)

theorem rollbackGate_out (s s' : P2P) (reqs reqs' : List Request) (h : s.rollbackGate reqs = .ok (s', reqs')) :
    s'.outgoingLocalInputs = s.outgoingLocalInputs ∧ s'.lastSentOutgoingInputFrame = s.lastSentOutgoingInputFrame :=
  netSide_out (rollbackGate_net h)

theorem remoteInput_out (s s' : P2P) (now : Nat) (inp : PlayerInput) (player : Nat) (handles : List Nat) (addr : Nat)
    (hev : s.handleEventCore now (.input inp player) handles addr = .ok s') :
    s'.outgoingLocalInputs = s.outgoingLocalInputs ∧ s'.lastSentOutgoingInputFrame = s.lastSentOutgoingInputFrame ∧
    ∀ p, p ≠ player → rget s'.localConnectStatus p = rget s.localConnectStatus p :=
  ⟨(netSide_out (remoteInput_net hev).1).1, (netSide_out (remoteInput_net hev).1).2, (remoteInput_net hev).2⟩

theorem offerToSpectators_out (s s' : P2P) (now : Nat) (m : List (Nat × PlayerInput))
    (h : s.offerToSpectators now m = .ok s') :
    s'.outgoingLocalInputs = s.outgoingLocalInputs ∧ s'.lastSentOutgoingInputFrame = s.lastSentOutgoingInputFrame := by
  obtain ⟨_, _, rfl⟩ := offerToSpectators_ok h
  exact ⟨rfl, rfl⟩

theorem sendConfirmed_out (s s' : P2P) (now : Nat) (confirmed : Frame)
    (h : s.sendConfirmedInputsToSpectators now confirmed = .ok s') :
    s'.outgoingLocalInputs = s.outgoingLocalInputs ∧ s'.lastSentOutgoingInputFrame = s.lastSentOutgoingInputFrame := by
  have hoff : ∀ (a b : P2P) (now : Nat) (m : List (Nat × PlayerInput)), a.offerToSpectators now m = .ok b →
      (b.outgoingLocalInputs, b.lastSentOutgoingInputFrame) = (a.outgoingLocalInputs, a.lastSentOutgoingInputFrame) := by
    intro a b now m hh
    obtain ⟨a1, a2⟩ := offerToSpectators_out a b now m hh
    rw [a1, a2]
  have := sendConfirmed_rel (StepRel.proj fun a => (a.outgoingLocalInputs, a.lastSentOutgoingInputFrame)) hoff
    s s' now confirmed h
  exact Prod.mk.inj this

end P2P

/-- One rollback-mode call, the remotes' side: the only frames handed to the remote endpoints are those
`register_local_inputs` sends (`Sends`), consecutive after the last one sent, each carrying the local
players' own queue inputs. -/
theorem rollbackTick_glueX (s s' : P2P) (gh : Ghost) (t0 : TLState) (reqs reqs' : List Request) (now : Nat)
    (h : SessInv s gh t0 reqs) (hg : GlueInv s gh) (hadv : s.advanceRollbackFrame now reqs = .ok (s', reqs')) :
    ∃ (gh2 gh' : Ghost) (sA sB : P2P), SessInv s' gh' t0 reqs' ∧ GlueInv s' gh' ∧ gh'.specs = gh2.specs ∧
      (∀ p, PrefixOf (gh.specs p).vals (gh2.specs p).vals) ∧
      sA.lastSentOutgoingInputFrame = s.lastSentOutgoingInputFrame ∧ Sends gh2 now sA sB ∧
      s'.lastSentOutgoingInputFrame = sB.lastSentOutgoingInputFrame ∧
      (∀ p, p ∉ s.localPlayerHandles → gh'.specs p = gh.specs p) ∧ s'.handles = s.handles := by
  obtain ⟨confirmed, s1, reqs1, s2, sy3, s4, hconf, hrs, hspec, hset, hreg, hgate⟩ := P2P.advanceRollbackFrame_ok hadv
  obtain ⟨gh1, hsettled, _⟩ := handleRollbackAndSave_spec s s1 confirmed t0 reqs reqs1 gh h.tinv h.asked hrs
  have hinv1 := SessInv_of_settled s s1 gh gh1 t0 reqs reqs1 h hsettled
  obtain ⟨ho1, hl1⟩ := P2P.handleRollbackAndSave_out _ _ _ _ _ hrs
  have hc2 := P2P.sendConfirmed_sameCore _ _ _ _ hspec
  obtain ⟨ho2, hl2⟩ := P2P.sendConfirmed_out _ _ _ _ hspec
  have hinv2 := SessInv_congr s1 s2 gh1 t0 reqs1 hinv1 hc2.pred hc2.sync hc2.statuses hc2.handles
  have hh2 : s2.handles = s.handles := hc2.handles.trans hsettled.rest.1
  have hst2 : s2.localConnectStatus = s.localConnectStatus := hc2.statuses.trans hsettled.statuses
  have hle : ∀ p, p < s2.sync.queues.length → confirmed ≤ (rget s2.localConnectStatus p).lastFrame := by
    intro p hp
    rw [hst2]
    apply confirmedFrame_le s confirmed hconf h.tinv.sync.conn
    rw [h.tinv.sync.nq, ← hsettled.nq, ← hc2.sync]; exact hp
  obtain ⟨hinv3, _, _, hq3⟩ := setLastConfirmed_spec s2 sy3 gh1 t0 reqs1 confirmed hinv2 hle hset
  -- up to here only the spectators were served: the outgoing queue, the statuses and the streams are those of `s`
  have hg3 : GlueInv ({ s2 with sync := sy3 } : P2P) gh1 :=
    GlueInv_transfer s _ gh gh1 hg (ho2.trans ho1) hh2 hst2 (by rw [hq3, hc2.sync]; exact hsettled.nq) hsettled.specs
  obtain ⟨gh2, sA, hinv4, hg4, hk4, hlsA, hsends, hpre, hoth⟩ := registerLocalInputs_glueX _ s4 gh1 t0 reqs1 now hinv3 hg3 hreg
  obtain ⟨gh', hinv', hsp', hst', hh', _, _⟩ := rollbackGate_spec s4 s' gh2 t0 reqs1 reqs' hinv4 hgate
  obtain ⟨ho5, hl5⟩ := P2P.rollbackGate_out _ _ _ _ hgate
  have hg' : GlueInv s' gh' := GlueInv_transfer s4 s' gh2 gh' hg4 ho5 hh' hst'
    (by rw [← hinv'.tinv.sync.nq, hst', hinv4.tinv.sync.nq]) hsp'
  refine ⟨gh2, gh', sA, s4, hinv', hg', hsp', fun p => ?_, ?_, hsends, hl5, fun p hp => ?_, ?_⟩
  · rw [← hsettled.specs]; exact hpre p
  · rw [hlsA]; exact hl2.trans hl1
  · rw [hsp', hoth p (by rw [P2P.localPlayerHandles_congr (s' := { s2 with sync := sy3 }) hh2]; exact hp), hsettled.specs]
  · rw [hh', hk4.handles]; exact hh2

theorem rollbackTick_glue (s s' : P2P) (gh : Ghost) (t0 : TLState) (reqs reqs' : List Request) (now : Nat)
    (h : SessInv s gh t0 reqs) (hg : GlueInv s gh) (hadv : s.advanceRollbackFrame now reqs = .ok (s', reqs')) :
    ∃ (gh2 gh' : Ghost) (sA sB : P2P), SessInv s' gh' t0 reqs' ∧ GlueInv s' gh' ∧ gh'.specs = gh2.specs ∧
      (∀ p, PrefixOf (gh.specs p).vals (gh2.specs p).vals) ∧
      sA.lastSentOutgoingInputFrame = s.lastSentOutgoingInputFrame ∧ Sends gh2 now sA sB ∧
      s'.lastSentOutgoingInputFrame = sB.lastSentOutgoingInputFrame := by
  obtain ⟨gh2, gh', sA, sB, a, b, c, d, e, f, g, _⟩ := rollbackTick_glueX s s' gh t0 reqs reqs' now h hg hadv
  exact ⟨gh2, gh', sA, sB, a, b, c, d, e, f, g⟩

theorem glue_remoteInputX (s s' : P2P) (gh : Ghost) (t : TLState) (now : Nat) (inp : PlayerInput) (player : Nat)
    (handles : List Nat) (addr : Nat) (hy : SessInv s gh t []) (hgy : GlueInv s gh)
    (hnl : player ∉ s.localPlayerHandles) (hf : 0 ≤ inp.frame)
    (hev : s.handleEventCore now (.input inp player) handles addr = .ok s') :
    ∃ gh', SessInv s' gh' t [] ∧ GlueInv s' gh' ∧ s'.sync.queues.length = s.sync.queues.length ∧
      (∀ p, (gh.specs p).vals.length ≤ (gh'.specs p).vals.length) ∧ s'.handles = s.handles ∧
      ∀ p, gh'.specs p = if p = player then ((gh.specs p).submit inp.frame inp.input).1 else gh.specs p := by
  obtain ⟨gh', h', _, _, hh, _, hsp⟩ := remoteInput_spec s s' gh t [] now inp player handles addr hy hnl hf hev
  obtain ⟨ho, _, hst⟩ := P2P.remoteInput_out s s' now inp player handles addr hev
  have hq := remoteInput_nq s s' now inp player handles addr hev
  refine ⟨gh', h', GlueInv_transferL s s' gh gh' hgy ho hh (fun p hp => hst p (fun e => hnl (e ▸ hp))) hq
    (fun p hp => by rw [hsp p, if_neg (fun e : p = player => hnl (e ▸ hp))]), hq, fun p => ?_, hh, hsp⟩
  rw [hsp p]
  by_cases hpp : p = player
  · rw [if_pos hpp]; exact (submit_vals_prefix _ _ _).1
  · rw [if_neg hpp]; exact Nat.le_refl _

theorem GlueInv_pending (s : P2P) (gh : Ghost) (l : List (Nat × PlayerInput)) (h : GlueInv s gh) :
    GlueInv { s with pendingLocalInputs := l } gh := ⟨h.out, h.top⟩

theorem GlueInv_userExecute (s : P2P) (gh : Ghost) (saves : List (Frame × Option Nat)) (h : GlueInv s gh) :
    GlueInv (s.userExecute saves) gh := by
  obtain ⟨uq, _, _, _, ust, uh, _⟩ := userExecute_fields s saves
  exact GlueInv_transfer s _ gh gh h rfl uh ust (by rw [uq]) rfl

/-- What a move of `s` by itself (local input, cell writes, a call, a delay change) leaves: the
invariants for a new ghost in which the streams of remote players are untouched and every stream has
only grown. -/
structure Moved (s s' : P2P) (t' : TLState) (gh gh' : Ghost) : Prop where
  sess : SessInv s' gh' t' []
  glue : GlueInv s' gh'
  handles : s'.localPlayerHandles = s.localPlayerHandles
  nq : s'.sync.queues.length = s.sync.queues.length
  remote : ∀ p, p ∉ s.localPlayerHandles → gh'.specs p = gh.specs p
  grows : ∀ p, PrefixOf (gh.specs p).vals (gh'.specs p).vals

theorem Moved.grown {s s' : P2P} {t' : TLState} {gh gh' : Ghost} (m : Moved s s' t' gh gh') :
    ∃ gh', SessInv s' gh' t' [] ∧ GlueInv s' gh' ∧ s'.sync.queues.length = s.sync.queues.length ∧
      ∀ p, PrefixOf (gh.specs p).vals (gh'.specs p).vals :=
  ⟨gh', m.sess, m.glue, m.nq, m.grows⟩

theorem moved_localInput (s : P2P) (gh : Ghost) (t : TLState) (handle : Nat) (input : Input)
    (h : SessInv s gh t []) (hg : GlueInv s gh) : Moved s (s.addLocalInput handle input).1 t gh gh := by
  obtain ⟨l, hl⟩ := P2P.addLocalInput_pending s handle input
  rw [hl]
  exact ⟨SessInv_pending s gh t [] l h, GlueInv_pending s gh l hg, rfl, rfl, fun _ _ => rfl, fun _ => PrefixOf.refl _⟩

theorem moved_saves (s : P2P) (gh : Ghost) (t : TLState) (sv : List (Frame × Option Nat))
    (h : SessInv s gh t []) (hg : GlueInv s gh) : Moved s (s.userExecute sv) t gh gh :=
  have hf := userExecute_fields s sv
  ⟨SessInv_userExecute s gh t [] sv h, GlueInv_userExecute s gh sv hg, P2P.localPlayerHandles_congr hf.2.2.2.2.2.1,
    by rw [hf.1], fun _ _ => rfl, fun _ => PrefixOf.refl _⟩

theorem moved_tick (s s' : P2P) (gh : Ghost) (t : TLState) (now : Nat) (reqs' : List Request)
    (h : SessInv s gh t []) (hg : GlueInv s gh) (hadv : s.advanceRollbackFrame now [] = .ok (s', reqs')) :
    ∃ gh', Moved s s' (execReqs t reqs') gh gh' := by
  obtain ⟨gh2, gh', _, _, hinv', hg', hsp, hpre, _, _, _, hoth, hh⟩ := rollbackTick_glueX s s' gh t [] reqs' now h hg hadv
  exact ⟨gh', SessInv_rebase s' gh' t reqs' hinv', hg', P2P.localPlayerHandles_congr hh,
    rollbackTick_nq s s' gh t [] reqs' now h hadv, hoth, fun p => by rw [hsp]; exact hpre p⟩

theorem GlueInv_step (x y : P2P × TLState) (gh : Ghost) (hx : SessInv x.1 gh x.2 []) (hgx : GlueInv x.1 gh)
    (hs : SStep x y) :
    ∃ gh', SessInv y.1 gh' y.2 [] ∧ GlueInv y.1 gh' ∧ y.1.sync.queues.length = x.1.sync.queues.length ∧
      ∀ p, PrefixOf (gh.specs p).vals (gh'.specs p).vals := by
  cases hs with
  | remoteInput s s' t now inp player handles addr hnl hf hev =>
    obtain ⟨gh', h', hg', hq, _, _, hsp⟩ := glue_remoteInputX s s' gh t now inp player handles addr hx hgx hnl hf hev
    refine ⟨gh', h', hg', hq, fun p => ?_⟩
    rw [hsp p]
    split
    · exact submit_vals_prefix _ _ _
    · exact PrefixOf.refl _
  | tick s s' t now reqs' hadv =>
    obtain ⟨gh', m⟩ := moved_tick s s' gh t now reqs' hx hgx hadv
    exact m.grown
  | localInput s t handle input => exact (moved_localInput s gh t handle input hx hgx).grown
  | saves s t sv => exact (moved_saves s gh t sv hx hgx).grown

theorem GlueInv_run (x y : P2P × TLState) (h : ∃ gh, SessInv x.1 gh x.2 [] ∧ GlueInv x.1 gh) (hr : SStar x y) :
    ∃ gh, SessInv y.1 gh y.2 [] ∧ GlueInv y.1 gh := by
  induction hr with
  | refl => exact h
  | step y z _ hs ih =>
    obtain ⟨gh, hy, hgy⟩ := ih
    obtain ⟨gh', h', hg', _⟩ := GlueInv_step y z gh hy hgy hs
    exact ⟨gh', h', hg'⟩

theorem GlueInv_init (s : P2P) (gh : Ghost) (n : Nat) (hsp : ∀ p, (gh.specs p).vals = [])
    (ho : s.outgoingLocalInputs = []) (hst : s.localConnectStatus = List.replicate n {}) (hq : s.sync.queues.length = n) :
    GlueInv s gh := by
  refine ⟨?_, ?_⟩
  · intro f m hl
    rw [ho] at hl
    simp [alookup] at hl
  · intro p _ hpq
    rw [hst, hsp p]
    rw [hq] at hpq
    simp [rget, List.getD_eq_getElem?_getD, hpq]

end Ggrs
