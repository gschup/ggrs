/-
L-hostspec: a rollback-mode host and its spectator (the world of `SpecRing`) side by side. Steps: any step of the
host's own world (`SStep`), `set_input_delay` of a host's local player, `advance_frame` of the spectator, and the
arrival at the spectator of the row right after the last one it holds, which the host has already offered
(`next_spectator_frame` is beyond it) and which carries what the host's queues hold for that frame. That rule is
what the per-link theorems give (`C06_host_rows`, `C05_stream_intact`), stated on the concrete rings of the host.
Invariant: every row the spectator holds is, player by player, the host's stream of that player at that frame.
-/
import GgrsModel.Proofs.SpecRing
import GgrsModel.Proofs.SpecHost
import GgrsModel.Proofs.Monotone

namespace Ggrs
open InputQueue Spectator

abbrev SpecSt := Spectator × List (List Input) × Nat

inductive HSStep : ((P2P × TLState) × SpecSt) → ((P2P × TLState) × SpecSt) → Prop
  | host (a a' : P2P × TLState) (sp : SpecSt) : SStep a a' → HSStep (a, sp) (a', sp)
  | hostDelay (s s' : P2P) (t : TLState) (sp : SpecSt) (now handle delay : Nat) (r : Except GgrsError Unit) :
      handle ∈ s.localPlayerHandles → handle < s.sync.queues.length →
      s.setInputDelay now handle delay = .ok (s', r) → HSStep ((s, t), sp) ((s', t), sp)
  | specAdvance (a : P2P × TLState) (s s' : Spectator) (Hs : List (List Input)) (served : Nat)
      (res : Except GgrsError (List Request)) : s.advanceAfterPoll = .ok (s', res) →
      HSStep (a, (s, Hs, served)) (a, (s', Hs, served + (match res with | .ok reqs => reqs.length | .error _ => 0)))
  | specRecv (a : P2P × TLState) (s s' : Spectator) (Hs : List (List Input)) (served : Nat) (now addr : Nat)
      (row : List Input) : row.length = s.numPlayers → row.length = a.1.sync.queues.length →
      (Hs.length : Int) < a.1.nextSpectatorFrame →
      (∀ h, h < a.1.sync.queues.length →
        (Hs.length : Int) ≤ (rget a.1.sync.queues h).lastAddedFrame ∧
        (rget a.1.sync.queues h).lastAddedFrame < (Hs.length : Int) + INPUT_QUEUE_LENGTH ∧
        rget (rget a.1.sync.queues h).inputs (Hs.length % INPUT_QUEUE_LENGTH) = ⟨(Hs.length : Int), row.getD h 0⟩) →
      recvLoop now (Hs.length : Int) addr row 0 s = .ok s' →
      HSStep (a, (s, Hs, served)) (a, (s', Hs ++ [row], served))

inductive HSStar : ((P2P × TLState) × SpecSt) → ((P2P × TLState) × SpecSt) → Prop
  | refl (x) : HSStar x x
  | step (x y z) : HSStar x y → HSStep y z → HSStar x z

def RowsOk (a : P2P) (gh : Ghost) (Hs : List (List Input)) : Prop :=
  ∀ f, f < Hs.length → ∀ h, h < a.sync.queues.length →
    f < (gh.specs h).vals.length ∧ (Hs.getD f []).getD h 0 = (gh.specs h).vals.getD f 0

structure HSInv (x : (P2P × TLState) × SpecSt) (gh : Ghost) : Prop where
  sess : SessInv x.1.1 gh x.1.2 []
  glue : GlueInv x.1.1 gh
  nsf : 0 ≤ x.1.1.nextSpectatorFrame
  spec : SpecInv x.2.1 x.2.2.1 x.2.2.2
  rows : RowsOk x.1.1 gh x.2.2.1
  offered : (x.2.2.1.length : Int) ≤ x.1.1.nextSpectatorFrame

theorem sstep_grow (x y : P2P × TLState) (gh : Ghost) (hx : SessInv x.1 gh x.2 []) (hg : GlueInv x.1 gh)
    (hn : 0 ≤ x.1.nextSpectatorFrame) (hs : SStep x y) :
    ∃ gh', SessInv y.1 gh' y.2 [] ∧ GlueInv y.1 gh' ∧ (∀ p, PrefixOf (gh.specs p).vals (gh'.specs p).vals) ∧
      y.1.sync.queues.length = x.1.sync.queues.length ∧ x.1.nextSpectatorFrame ≤ y.1.nextSpectatorFrame := by
  obtain ⟨gh', h1, h2, hnq, hpre⟩ := GlueInv_step x y gh hx hg hs
  exact ⟨gh', h1, h2, hpre, hnq, hs.nsf_le⟩

theorem RowsOk_grow (a a' : P2P) (gh gh' : Ghost) (Hs : List (List Input)) (h : RowsOk a gh Hs)
    (hnq : a'.sync.queues.length = a.sync.queues.length)
    (hpre : ∀ p, PrefixOf (gh.specs p).vals (gh'.specs p).vals) : RowsOk a' gh' Hs := by
  intro f hf p hp
  obtain ⟨a1, a2⟩ := h f hf p (hnq ▸ hp)
  exact ⟨Nat.lt_of_lt_of_le a1 (hpre p).1, by rw [(hpre p).2 f a1]; exact a2⟩

theorem HSInv_hostStep (a a' : P2P × TLState) (sp : SpecSt) (gh : Ghost) (h : HSInv (a, sp) gh) (hs : DStep a a') :
    ∃ gh', HSInv (a', sp) gh' := by
  obtain ⟨gh', h1, h2, hnq, hpre⟩ := HInv_step_grow a a' gh h.sess h.glue hs
  have hle := dstep_nsf_le a a' gh h.sess h.glue h.nsf hs
  exact ⟨gh', h1, h2, Int.le_trans h.nsf hle, h.spec, RowsOk_grow a.1 a'.1 gh gh' sp.2.1 h.rows hnq hpre,
    Int.le_trans h.offered hle⟩

theorem HSInv_step (x y : (P2P × TLState) × SpecSt) (h : ∃ gh, HSInv x gh) (hs : HSStep x y) : ∃ gh, HSInv y gh := by
  obtain ⟨gh, h⟩ := h
  cases hs with
  | host a a' sp hss => exact HSInv_hostStep a a' sp gh h (DStep.base _ _ hss)
  | hostDelay s s' t sp now handle delay r hloc hp hset =>
    exact HSInv_hostStep _ _ sp gh h (DStep.setDelay s s' t now handle delay r hloc hp hset)
  | specAdvance a s s' Hs served res hadv =>
    exact ⟨gh, h.sess, h.glue, h.nsf,
      SpecInv_step (s, Hs, served) _ h.spec (SpStep.advance s s' Hs served res hadv), h.rows, h.offered⟩
  | specRecv a s s' Hs served now addr row hrow hrowq hoff hring hrecv =>
    have hsp : SpecInv s' (Hs ++ [row]) served :=
      SpecInv_step (s, Hs, served) (s', Hs ++ [row], served) h.spec (SpStep.recv s s' Hs served now addr row hrow hrecv)
    refine ⟨gh, h.sess, h.glue, h.nsf, hsp, ?_, ?_⟩
    · intro f hf p hp
      simp only [List.length_append, List.length_cons, List.length_nil] at hf
      by_cases hfo : f < Hs.length
      · obtain ⟨a1, a2⟩ := h.rows f hfo p hp
        exact ⟨a1, by rw [getD_append_lt Hs row f hfo]; exact a2⟩
      · have hfe : f = Hs.length := by omega
        subst hfe
        obtain ⟨hle, hwin, hslot⟩ := hring p hp
        obtain ⟨hfB, hv⟩ := ring_read (h.sess.tinv.sync.all p hp).ring hle hwin hslot
        exact ⟨hfB, by rw [getD_append_eq]; exact hv.symm⟩
    · show ((Hs ++ [row]).length : Int) ≤ a.1.nextSpectatorFrame
      simp only [List.length_append, List.length_cons, List.length_nil]
      omega

/-- L-hostspec, behind `C06_spectator_replays_host_streams`: the invariant of the header holds along every
run of the product. -/
theorem HSInv_run (x y : (P2P × TLState) × SpecSt) (h : ∃ gh, HSInv x gh) (hr : HSStar x y) : ∃ gh, HSInv y gh := by
  induction hr with
  | refl => exact h
  | step y z _ hs ih => exact HSInv_step y z ih hs

end Ggrs
