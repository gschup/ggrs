/-
L-drop (world): a rollback-mode session (either saving mode) next to the game it drives. The steps
(`XStep`): a remote input arrives, an `advance_frame` call, `add_local_input`, cell writes by the game,
and three kinds of drop — the `disconnect_player` call, the Disconnected event of an endpoint (what a
timeout raises), and `update_player_disconnects` adopting a cut-off reported by another peer (`adopt`).
`adopt` is restricted: a cut-off earlier than the last frame of a player already marked is the finding
of C10 and is not a step.
-/
import GgrsModel.Proofs.DropSession
import GgrsModel.Proofs.Calls

namespace Ggrs
open InputQueue

theorem SessInvD_of_SessInv (s : P2P) (gh : Ghost) (t0 : TLState) (reqs : List Request)
    (h : SessInv s gh t0 reqs) (hdf : s.disconnectFrame = NULL_FRAME) :
    SessInvD s ⟨gh.specs, gh.hists, gh.T, fun _ => False⟩ t0 reqs s.localConnectStatus := by
  have hconn : ∀ p, (rget s.localConnectStatus p).disconnected = false := by
    intro p
    by_cases hp : p < s.localConnectStatus.length
    · exact h.tinv.sync.conn _ (mem_of_rget _ _ hp)
    · have : rget s.localConnectStatus p = default := by
        simp [rget, List.getD_eq_getElem?_getD, List.getElem?_eq_none (by omega : s.localConnectStatus.length ≤ p)]
      rw [this]; rfl
  have hdead : ∀ {p} {P : Prop}, (rget s.localConnectStatus p).disconnected = true → P :=
    fun hd => by rw [hconn] at hd; cases hd
  refine ⟨⟨⟨h.tinv.sync.cur, h.tinv.sync.nq, fun _ _ hg => absurd hg id, ?_⟩, h.tinv.exec, h.tinv.rows,
      fun _ _ hd => hdead hd⟩,
    Marks.refl _, fun p hp _ => h.asked p hp, fun _ _ _ hd => hdead hd, fun p hp _ => h.status p hp, h.remote,
    fun p _ => hconn p, fun _ _ hg => absurd hg id, Or.inl hdf, fun _ _ hd => hdead hd, fun _ _ _ hg => absurd hg id⟩
  intro p hp _
  have : pcur (rget s.localConnectStatus p) s.sync.currentFrame = s.sync.currentFrame := by
    unfold pcur; rw [if_neg (by rw [hconn p]; simp)]
  rw [this]; exact h.tinv.sync.all p hp

theorem SessInvD_rebase (s : P2P) (gh : DGhost) (t0 : TLState) (reqs : List Request) (st0 : List ConnStatus)
    (h : SessInvD s gh t0 reqs st0) : SessInvD s gh (execReqs t0 reqs) [] st0 :=
  ⟨⟨h.tinv.sync, h.tinv.exec, h.tinv.rows, h.tinv.deadRows⟩, h.marks, h.asked, h.pend, h.status,
    h.remote, h.localAlive, h.safe, h.dfok, h.deadClean, h.saved⟩

namespace P2P

theorem pushEvent_sameCore (s : P2P) (e : Event) : SameCore s (s.pushEvent e) := ⟨rfl, rfl, rfl, rfl, rfl, rfl, rfl, rfl, rfl⟩

end P2P

/-- What the environment provides when an endpoint's Disconnected event is handled: the handles
are the remote players behind that address, all still connected (`own`: not yet treated as dead by
the queue invariants), with one common last frame `L`. -/
structure DropCfg (s : P2P) (hs : List Nat) (addr : Nat) (eph : List Nat) (L : Frame) (st0 : List ConnStatus) : Prop where
  pt : ∀ h, h ∈ hs → s.playerType h = some (.remote addr)
  ep : ∃ ep, P2P.findEp s.remotes addr = some ep ∧ ep.handles = eph
  sub : ∀ h, h ∈ hs → h ∈ eph
  rem : ∀ g, g ∈ eph → g ∉ s.localPlayerHandles
  lt : ∀ h, h ∈ hs → h < s.numPlayers ∧ h < s.sync.queues.length
  own : ∀ h, h ∈ hs → (rget st0 h).disconnected = false ∧ (rget s.localConnectStatus h).lastFrame = L
  L0 : -1 ≤ L
  same : ∀ g, g ∈ eph → g < s.sync.queues.length → (rget s.localConnectStatus g).disconnected = false →
    (rget s.localConnectStatus g).lastFrame = L

theorem dropFold_specD (gh : DGhost) (t0 : TLState) (reqs : List Request) (st0 : List ConnStatus) (now addr : Nat)
    (eph : List Nat) (L : Frame) : ∀ (hs : List Nat) (s s' : P2P),
    SessInvD s gh t0 reqs st0 → DropCfg s hs addr eph L st0 →
    hs.foldlM (fun s h =>
      let lastFrame := if h < s.numPlayers then (rget s.localConnectStatus h).lastFrame else NULL_FRAME
      s.disconnectPlayerAtFrame now h lastFrame) s = .ok s' →
    SessInvD s' gh t0 reqs st0 ∧ s'.sync = s.sync ∧ s'.handles = s.handles ∧ s'.pred = s.pred ∧
      (∀ g, (rget s.localConnectStatus g).disconnected = true → (rget s'.localConnectStatus g).disconnected = true) ∧
      (hs ≠ [] → ∀ g, g ∈ eph → g < s.sync.queues.length → (rget s'.localConnectStatus g).disconnected = true) ∧
      (∀ g, (rget s'.localConnectStatus g).lastFrame = (rget s.localConnectStatus g).lastFrame) ∧
      (s.sync.currentFrame ≤ L + 1 → s'.disconnectFrame = s.disconnectFrame) ∧
      (∀ g, g ∉ eph → rget s'.localConnectStatus g = rget s.localConnectStatus g) ∧
      s'.outgoingLocalInputs = s.outgoingLocalInputs ∧ s'.lastSentOutgoingInputFrame = s.lastSentOutgoingInputFrame := by
  intro hs
  induction hs with
  | nil =>
    intro s s' h _ hf
    simp only [List.foldlM_nil] at hf
    have := pure_ok hf
    subst this
    exact ⟨h, rfl, rfl, rfl, fun _ hd => hd, fun hne => absurd rfl hne, fun _ => rfl, fun _ => rfl, fun _ _ => rfl, rfl, rfl⟩
  | cons a rest ih =>
    intro s s' h cfg hf
    simp only [List.foldlM_cons] at hf
    obtain ⟨s1, h1, hf⟩ := bind_ok hf
    obtain ⟨ep, hep, heph⟩ := cfg.ep
    have ha := cfg.lt a List.mem_cons_self
    have hown := cfg.own a List.mem_cons_self
    simp only [ha.1, if_true] at h1
    rw [hown.2] at h1
    have hpt := cfg.pt a List.mem_cons_self
    obtain ⟨hinv1, hsy1, hh1, hp1, hmono1, hmark1, hL1, hdf1, hoth1, hout1, hls1⟩ := drop_specD s s1 gh t0 reqs st0 now a addr L ep h hpt hep
      (by rw [heph]; exact cfg.rem) ⟨ha.2, hown.1, hown.2.symm⟩ cfg.L0 (by rw [heph]; exact cfg.same) h1
    obtain ⟨_, _, _, _, _, _, _, _, _, _, hnp1, hfind1, _, _⟩ := P2P.disconnectAt_fields s s1 now a addr L ep hpt hep h1
    have hlp := P2P.localPlayerHandles_congr hh1
    have cfg1 : DropCfg s1 rest addr eph L st0 := by
      refine ⟨?_, ⟨_, hfind1, by rw [P2P.disconnect_handles, heph]⟩, fun x hx => cfg.sub x (List.mem_cons_of_mem _ hx),
        by rw [hlp]; exact cfg.rem, ?_, ?_, cfg.L0, ?_⟩
      · intro x hx
        unfold P2P.playerType
        rw [hh1]
        exact cfg.pt x (List.mem_cons_of_mem _ hx)
      · intro x hx
        rw [hnp1, hsy1]; exact cfg.lt x (List.mem_cons_of_mem _ hx)
      · intro x hx
        rw [hL1]; exact cfg.own x (List.mem_cons_of_mem _ hx)
      · intro g hg hgn hc
        rw [hsy1] at hgn
        rw [hL1]
        exact cfg.same g hg hgn (Bool.eq_false_iff.mpr fun hx => by rw [hmono1 g hx] at hc; cases hc)
    obtain ⟨hinv', hsy', hh', hp', hmono', _, hL', hdf', hoth', hout', hls'⟩ := ih s1 s' hinv1 cfg1 hf
    refine ⟨hinv', hsy'.trans hsy1, hh'.trans hh1, hp'.trans hp1, fun g hd => hmono' g (hmono1 g hd), ?_,
      fun g => (hL' g).trans (hL1 g), fun hle => (hdf' (by rw [hsy1]; exact hle)).trans (hdf1 hle),
      fun g hg => (hoth' g hg).trans (hoth1 g (by rw [heph]; exact hg)), hout'.trans hout1, hls'.trans hls1⟩
    intro _ g hg hgn
    exact hmono' g (hmark1 g (by rw [heph]; exact hg) hgn)

/-- A session and the game it drives, with drops. -/
inductive XStep : (P2P × TLState) → (P2P × TLState) → Prop
  /-- a remote player's input arrives (ignored if the player is marked disconnected) -/
  | remoteInput (s s' : P2P) (t : TLState) (now : Nat) (inp : PlayerInput) (player : Nat) (handles : List Nat)
      (addr : Nat) : player ∉ s.localPlayerHandles → 0 ≤ inp.frame →
      s.handleEventCore now (.input inp player) handles addr = .ok s' → XStep (s, t) (s', t)
  | tick (s s' : P2P) (t : TLState) (now : Nat) (reqs' : List Request) :
      s.advanceRollbackFrame now [] = .ok (s', reqs') → XStep (s, t) (s', execReqs t reqs')
  | dropApi (s s' : P2P) (t : TLState) (now handle addr : Nat) (ep : Endpoint) :
      s.playerType handle = some (.remote addr) → P2P.findEp s.remotes addr = some ep →
      (∀ g, g ∈ ep.handles → g ∉ s.localPlayerHandles) → handle < s.sync.queues.length →
      -1 ≤ (rget s.localConnectStatus handle).lastFrame →
      (∀ g, g ∈ ep.handles → g < s.sync.queues.length → (rget s.localConnectStatus g).disconnected = false →
        (rget s.localConnectStatus g).lastFrame = (rget s.localConnectStatus handle).lastFrame) →
      s.disconnectPlayer now handle = .ok (s', .ok ()) → XStep (s, t) (s', t)
  /-- an endpoint's Disconnected event (raised by its timeout) is handled -/
  | dropEvent (s s' : P2P) (t : TLState) (now addr : Nat) (hs : List Nat) (ep : Endpoint) (L : Frame) :
      (∀ h, h ∈ hs → s.playerType h = some (.remote addr)) → P2P.findEp s.remotes addr = some ep →
      (∀ h, h ∈ hs → h ∈ ep.handles) → (∀ g, g ∈ ep.handles → g ∉ s.localPlayerHandles) →
      (∀ h, h ∈ hs → h < s.numPlayers ∧ h < s.sync.queues.length) →
      (∀ h, h ∈ hs → (rget s.localConnectStatus h).disconnected = false) → -1 ≤ L →
      (∀ g, g ∈ ep.handles → g < s.sync.queues.length → (rget s.localConnectStatus g).disconnected = false →
        (rget s.localConnectStatus g).lastFrame = L) →
      s.handleEventCore now .disconnected hs addr = .ok s' → XStep (s, t) (s', t)
  /-- `update_player_disconnects` acts on the other peers' reports: `disconnect_player_at_frame` with
  the cut-off it computed — not beyond the last frame of any still-connected player of that
  endpoint, and not before the last frame of any player already marked -/
  | adopt (s s' : P2P) (t : TLState) (now handle addr : Nat) (ep : Endpoint) (lastFrame : Frame) :
      s.playerType handle = some (.remote addr) → P2P.findEp s.remotes addr = some ep →
      (∀ g, g ∈ ep.handles → g ∉ s.localPlayerHandles) → -1 ≤ lastFrame →
      (∀ g, g ∈ ep.handles → g < s.sync.queues.length → (rget s.localConnectStatus g).disconnected = false →
        lastFrame ≤ (rget s.localConnectStatus g).lastFrame) →
      (∀ g, g < s.sync.queues.length → (rget s.localConnectStatus g).disconnected = true →
        (rget s.localConnectStatus g).lastFrame ≤ lastFrame) →
      s.disconnectPlayerAtFrame now handle lastFrame = .ok s' → XStep (s, t) (s', t)
  | localInput (s : P2P) (t : TLState) (handle : Nat) (input : Input) :
      XStep (s, t) ((s.addLocalInput handle input).1, t)
  /-- the game fulfils `SaveGameState` requests: cells are written (any cell, any time; see `SStep.saves`) -/
  | saves (s : P2P) (t : TLState) (saves : List (Frame × Option Nat)) : XStep (s, t) (s.userExecute saves, t)

inductive XStar : (P2P × TLState) → (P2P × TLState) → Prop
  | refl (x : P2P × TLState) : XStar x x
  | step (x y z : P2P × TLState) : XStar x y → XStep y z → XStar x z

def XInv (x : P2P × TLState) : Prop := ∃ gh st0, SessInvD x.1 gh x.2 [] st0

theorem XInv_step (x y : P2P × TLState) (h : XInv x) (hs : XStep x y) : XInv y := by
  obtain ⟨gh, st0, h⟩ := h
  cases hs with
  | remoteInput s s' t now inp player handles addr hnl h0 hev =>
    obtain ⟨gh', st0', h', _⟩ := remoteInput_specD s s' gh t [] st0 now inp player handles addr h hnl h0 hev
    exact ⟨gh', st0', h'⟩
  | tick s s' t now reqs' hadv =>
    obtain ⟨_, _, _, _, gh', _, _, h', _⟩ := advanceRollbackFrame_specD s s' gh t [] reqs' now st0 h hadv
    exact ⟨gh', _, SessInvD_rebase s' gh' t reqs' _ h'⟩
  | dropApi s s' t now handle addr ep hpt hep hrem hlt hl0 hsame hcall =>
    obtain ⟨hc, hdrop⟩ := P2P.disconnectPlayer_remote_ok hpt hcall
    exact ⟨gh, st0, (drop_specD s s' gh t [] st0 now handle addr _ ep h hpt hep hrem
      ⟨hlt, h.marks.alive hc, rfl⟩ hl0 hsame hdrop).1⟩
  | dropEvent s s' t now addr hs ep L hpt hep hsub hrem hlt hconn hL0 hsame hev =>
    obtain ⟨s1, hfold, rfl⟩ := P2P.handleEventCore_disconnected_ok hev
    have cfg : DropCfg s hs addr ep.handles L st0 :=
      ⟨hpt, ⟨ep, hep, rfl⟩, hsub, hrem, hlt,
        fun x hx => ⟨h.marks.alive (hconn x hx), hsame x (hsub x hx) (hlt x hx).2 (hconn x hx)⟩, hL0, hsame⟩
    exact ⟨gh, st0, SessInvD_congr s1 _ gh t [] st0 (dropFold_specD gh t [] st0 now addr ep.handles L hs s s1 h cfg hfold).1
      (s1.pushEvent_sameCore _)⟩
  | adopt s s' t now handle addr ep lf hpt hep hrem hl0 hlow hdead hdrop =>
    obtain ⟨h', _⟩ := drop_specG s s' gh t [] st0 now handle addr lf ep h hpt hep hrem hl0 hlow
      (fun g hg hgg => hdead g hg (h.marks.mono g (h.tinv.sync.gone g hg hgg).dead)) hdrop
    exact ⟨gh, st0, h'⟩
  | localInput s t handle input =>
    obtain ⟨l, hl⟩ := P2P.addLocalInput_pending s handle input
    show XInv ((s.addLocalInput handle input).1, t)
    rw [hl]
    exact ⟨gh, st0, SessInvD_pending s gh t [] st0 l h⟩
  | saves s t sv => exact ⟨gh, st0, SessInvD_userExecute s gh t [] st0 sv h⟩

theorem XInv_run (x y : P2P × TLState) (h : XInv x) (hr : XStar x y) : XInv y := by
  induction hr with
  | refl => exact h
  | step y z _ hs ih => exact XInv_step y z ih hs

theorem XStep_of_SStep {x y : P2P × TLState} (hs : SStep x y) : XStep x y := by
  cases hs with
  | remoteInput s s' t now inp player handles addr hnl h0 hev => exact XStep.remoteInput s s' t now inp player handles addr hnl h0 hev
  | tick s s' t now reqs' hadv => exact XStep.tick s s' t now reqs' hadv
  | localInput s t handle input => exact XStep.localInput s t handle input
  | saves s t sv => exact XStep.saves s t sv

theorem XStar_of_SStar (x y : P2P × TLState) (h : SStar x y) : XStar x y := by
  induction h with
  | refl => exact XStar.refl _
  | step y z _ hs ih => exact XStar.step _ y z ih (XStep_of_SStep hs)

/-- The prediction window with dead players: the session never runs more than `max_prediction` frames
beyond the newest frame for which it holds the input of everybody who is still connected. -/
theorem window_allD (s s' : P2P) (gh : DGhost) (t0 : TLState) (reqs reqs' : List Request) (now : Nat)
    (st0 : List ConnStatus) (h : SessInvD s gh t0 reqs st0)
    (hadv : s.advanceRollbackFrame now reqs = .ok (s', reqs'))
    (hnew : s'.sync.currentFrame ≠ s.sync.currentFrame) :
    ∃ gh', SessInvD s' gh' t0 reqs' s'.localConnectStatus ∧ ∀ p, p < s.sync.queues.length →
      (rget s.localConnectStatus p).disconnected = false →
      s.sync.currentFrame - ((gh'.specs p).vals.length - 1 : Int) ≤ s.maxPrediction := by
  obtain ⟨confirmed, s1, reqs1, s2, sy3, s4, gh1, gh3, gh4, k⟩ :=
    advanceRollbackFrame_preGateD s s' gh t0 reqs reqs' now st0 h hadv
  obtain ⟨gh', hinv', hsp', _⟩ := rollbackGate_specD s4 s' gh4 t0 reqs1 reqs' k.inv4 k.gate
  refine ⟨gh', hinv', fun p hp hc => ?_⟩
  rw [hsp']
  -- the gate was passed: the frame is within the window of the last confirmed frame ...
  have hcur4 : s4.sync.currentFrame = s.sync.currentFrame := k.keeps.cur.trans k.cur3
  have hmp4 : s4.maxPrediction = s.maxPrediction :=
    k.keeps.maxPrediction.trans ((P2P.sendConfirmed_sameCore _ _ _ _ k.spec).maxPrediction.trans k.settled.rest.2.1)
  have hgw := P2P.C04_window_frames_aux s4 s' reqs1 reqs' k.gate (by rw [hcur4]; exact hnew)
  have hlcf4 : s4.sync.lastConfirmedFrame = sy3.lastConfirmedFrame := k.keeps.lastConfirmed
  rw [hcur4, hmp4, hlcf4] at hgw
  have hlcf := setLastConfirmed_le _ _ _ _ k.set
  -- ... which is at most the last frame of `p`, whose input the queue held before the call (and the
  -- stream only grows)
  have hconfp := confirmedFrame_leD s confirmed k.conf p (h.nst ▸ hp) hc
  have hstat := h.status_len hp (h.liveQI hp hc).1
  have hgrow := k.keeps.grows p
  rw [k.specs3, k.settled.specs] at hgrow
  have hnull : NULL_FRAME = (-1 : Int) := rfl
  rcases hgw with ⟨hn, hlt⟩ | ⟨hn, hlt⟩
  · rw [hnull] at hn
    omega
  · omega

/-- The whole column of a dead remote player (dead as far as the queue invariants know: `st0`) is
right at every moment. -/
theorem deadColumn_right (s : P2P) (gh : DGhost) (t0 : TLState) (reqs : List Request) (st0 : List ConnStatus)
    (h : SessInvD s gh t0 reqs st0) (p : Nat) (hp : p < s.sync.queues.length)
    (hd : (rget st0 p).disconnected = true) (hnl : p ∉ s.localPlayerHandles)
    (f : Nat) (hf : (f : Int) < s.sync.currentFrame) (hle : (f : Int) ≤ (rget st0 p).lastFrame) :
    (((execReqs t0 reqs).R f).getD p default).1 = (gh.specs p).vals.getD f 0 := by
  rw [← h.tinv.rows p hp f]
  obtain ⟨_, hlu, hlen⟩ := h.remote p hp hnl
  have hL : (rget s.localConnectStatus p).lastFrame = (rget st0 p).lastFrame := h.marks.last p
  have hflen : f < (gh.specs p).vals.length := by
    have : ((gh.specs p).vals.length : Int) = (rget st0 p).lastFrame + 1 := by rw [hlen, hlu, hL]
    omega
  by_cases hg : gh.gone p
  · exact (h.tinv.sync.gone p hp hg).right f hle hflen
  · have hq := h.tinv.sync.live p hp hg
    have hfp : (f : Int) < pcur (rget st0 p) s.sync.currentFrame := by
      unfold pcur; rw [if_pos hd]; omega
    rcases hq.tl.col f hfp with ⟨a, _⟩ | ⟨_, b⟩ | ⟨a, _⟩
    · exact absurd (h.deadClean p hp hd) a
    · exact b
    · omega

theorem deadColumn_after_call (s s' : P2P) (gh : DGhost) (t : TLState) (reqs reqs' : List Request) (st0 : List ConnStatus)
    (h : SessInvD s gh t reqs st0) (now : Nat) (hadv : s.advanceRollbackFrame now reqs = .ok (s', reqs')) :
    ∃ gh' : DGhost, (∀ p, p ∉ s.localPlayerHandles → gh'.specs p = gh.specs p) ∧
      ∀ p, p < s.sync.queues.length → (rget s.localConnectStatus p).disconnected = true →
      ∀ f : Nat, (f : Int) < s'.sync.currentFrame →
        ((rget s.localConnectStatus p).lastFrame < (f : Int) →
          ((execReqs t reqs').R f).getD p default = (0, .disconnected)) ∧
        (p ∉ s.localPlayerHandles → (f : Int) ≤ (rget s.localConnectStatus p).lastFrame →
          (((execReqs t reqs').R f).getD p default).1 = (gh'.specs p).vals.getD f 0 ∧
          ((gh'.specs p).vals.length : Int) = (rget s.localConnectStatus p).lastFrame + 1) := by
  obtain ⟨_, _, _, _, gh', _, _, hinv', hh, _, hnq, _, hsame, _, hsp, _⟩ :=
    advanceRollbackFrame_specD s s' gh t reqs reqs' now st0 h hadv
  refine ⟨gh', hsp, ?_⟩
  intro p hp hd f hf
  have hp' : p < s'.sync.queues.length := by rw [hnq]; exact hp
  have hst := hsame p hd
  have hd' : (rget s'.localConnectStatus p).disconnected = true := by rw [hst]; exact hd
  have hlp := P2P.localPlayerHandles_congr hh
  rw [← hst, ← hlp]
  refine ⟨fun hlf => hinv'.tinv.deadRows p hp' hd' f hlf hf, fun hnl hle => ⟨?_, ?_⟩⟩
  · exact deadColumn_right s' gh' t reqs' _ hinv' p hp' hd' hnl f hf hle
  · have := hinv'.remote p hp' hnl
    rw [this.2.2, this.2.1]

end Ggrs
