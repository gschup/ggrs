/-
Varint layer: the header loop of `rle_decode` inverts `varinteger::encode` for every u64 and
never reaches an overflow-panic site.
-/
import GgrsModel.Model.Codec

namespace Ggrs.Codec

theorem varintEncodeFuel_ne_nil (fuel v : Nat) (h : 0 < fuel) : varintEncodeFuel fuel v ≠ [] := by
  cases fuel with
  | zero => omega
  | succ n => unfold varintEncodeFuel; split <;> simp

theorem varintEncode_ne_nil (v : Nat) : varintEncode v ≠ [] :=
  varintEncodeFuel_ne_nil 10 v (by decide)

theorem bits_eq (b : UInt8) : (b &&& 0x7F).toNat = b.toNat % 128 := by
  rw [UInt8.toNat_and]
  exact Nat.and_two_pow_sub_one_eq_mod _ 7

theorem cont_eq (b : UInt8) : (b &&& 0x80 == 0) = decide (b.toNat < 128) := by
  -- `x &&& 2^7` has quotient `x / 2^7 % 2` and remainder 0 on division by `2^7`
  have h := Nat.div_add_mod (b.toNat &&& 2 ^ 7) (2 ^ 7)
  rw [Nat.and_div_two_pow, Nat.and_mod_two_pow, Nat.mod_self, Nat.and_zero, Nat.div_self (by decide),
    Nat.and_one_is_mod] at h
  have hb := b.toNat_lt
  rw [Bool.eq_iff_iff, beq_iff_eq, decide_eq_true_iff, ← UInt8.toNat_inj, UInt8.toNat_and]
  show b.toNat &&& 2 ^ 7 = 0 ↔ _
  omega

theorem bits_lt (b : UInt8) : (b &&& 0x7F).toNat < 128 := by
  rw [bits_eq]
  exact Nat.mod_lt _ (by decide)

theorem add_mul_lt {h b n P : Nat} (hh : h < P) (hb : b < n) : h + b * P < n * P := by
  have := Nat.mul_le_mul_right P hb
  rw [Nat.succ_mul] at this
  omega

theorem acc_lt {header bits shift : Nat} (hh : header < 2 ^ shift) (hb : bits < 128) :
    header + bits * 2 ^ shift < 2 ^ (shift + 7) := by
  rw [Nat.pow_add, Nat.mul_comm (2 ^ shift)]
  exact add_mul_lt hh hb

theorem readHeader_cons (shift header n : Nat) (rest : Bytes) (hn : n < 256) (hs : shift ≤ 63)
    (hlt : header + n % 128 * 2 ^ shift < 2 ^ 64) :
    readHeader shift header (UInt8.ofNat n :: rest) =
      if n < 128 then .ok (header + n % 128 * 2 ^ shift, rest)
      else readHeader (shift + 7) (header + n % 128 * 2 ^ shift) rest := by
  have hg : (decide (shift > 63) || (shift == 63 && decide (n % 128 > 1))) = false := by
    rw [Bool.or_eq_false_iff, Bool.and_eq_false_imp, decide_eq_false_iff_not, beq_iff_eq, decide_eq_false_iff_not]
    refine ⟨Nat.not_lt.mpr hs, ?_⟩
    rintro rfl
    omega
  rw [readHeader]
  simp only [bits_eq, cont_eq, UInt8.toNat_ofNat', Nat.mod_eq_of_lt hn, hg, Bool.false_eq_true, if_false,
    Nat.not_le.mpr hlt, decide_eq_true_iff]

theorem split_mul (v s : Nat) : v % 128 * 2 ^ s + v / 128 * 2 ^ (s + 7) = v * 2 ^ s := by
  rw [Nat.pow_add, Nat.mul_comm (2 ^ s), ← Nat.mul_assoc, ← Nat.add_mul]
  exact congrArg (· * 2 ^ s) (Nat.mod_add_div' v 128)

theorem readHeader_encode (fuel : Nat) : ∀ (v shift header : Nat) (rest : Bytes),
    0 < fuel → shift ≤ 63 → v < 128 ^ fuel → header + v * 2 ^ shift < 2 ^ 64 →
    readHeader shift header (varintEncodeFuel fuel v ++ rest) = .ok (header + v * 2 ^ shift, rest) := by
  induction fuel with
  | zero => intro _ _ _ _ h; cases h
  | succ n ih =>
    intro v shift header rest _ hs hf hsum
    have hsplit := split_mul v shift
    rw [varintEncodeFuel]
    by_cases hbig : v > 127
    · have hlt : v % 128 < 128 := Nat.mod_lt v (by decide)
      rw [if_pos hbig, List.cons_append, readHeader_cons _ _ _ _ (Nat.add_lt_add_right hlt 128) hs,
        if_neg (Nat.not_lt.mpr (Nat.le_add_left ..)), Nat.add_mod_right, Nat.mod_mod]
      · -- `v ≥ 128` below `2^64` leaves room for seven more bits
        have h7 : shift + 7 < 64 := by
          apply (Nat.pow_lt_pow_iff_right (a := 2) (by decide)).mp
          have := Nat.mul_le_mul_right (2 ^ shift) hbig
          rw [Nat.pow_add]
          omega
        have hdiv : v / 128 < 128 ^ n := Nat.div_lt_of_lt_mul (by rwa [Nat.pow_succ, Nat.mul_comm] at hf)
        have hn : 0 < n := Nat.pos_of_ne_zero (by rintro rfl; omega)
        rw [ih _ _ _ _ hn (Nat.le_of_lt_succ h7) hdiv, Nat.add_assoc, hsplit]
        rwa [Nat.add_assoc, hsplit]
      · rw [Nat.add_mod_right, Nat.mod_mod]
        omega
    · have hlt : v < 128 := Nat.lt_succ_of_le (Nat.not_lt.mp hbig)
      rw [if_neg hbig, List.cons_append, List.nil_append, readHeader_cons _ _ _ _ (Nat.lt_trans hlt (by decide)) hs,
        if_pos hlt, Nat.mod_eq_of_lt hlt]
      rwa [Nat.mod_eq_of_lt hlt]

theorem readHeader_varintEncode (v : Nat) (rest : Bytes) (hv : v < 2 ^ 64) :
    readHeader 0 0 (varintEncode v ++ rest) = .ok (v, rest) := by
  have := readHeader_encode 10 v 0 0 rest (by decide) (by decide) (Nat.lt_trans hv (by decide))
    (by rwa [Nat.zero_add, Nat.pow_zero, Nat.mul_one])
  rwa [Nat.zero_add, Nat.pow_zero, Nat.mul_one] at this

theorem readHeader_length : ∀ (data : Bytes) (shift header h : Nat) (rest : Bytes),
    readHeader shift header data = .ok (h, rest) → rest.length < data.length := by
  intro data shift header h rest hr
  fun_induction readHeader shift header data with
  | case1 | case2 | case3 => cases hr
  | case4 =>
    rw [← (Prod.mk.inj (Except.ok.inj hr)).2]
    exact Nat.lt_succ_self _
  | case5 _ _ _ _ _ _ _ _ _ ih => exact Nat.lt_succ_of_lt (ih hr)

/-- The header loop never hits the u64 overflow panic: the accumulated header stays below
`2^shift` and the guard rejects a tenth byte with more than one significant bit. -/
theorem readHeader_no_panic (data : Bytes) (shift header : Nat) (k : Nat)
    (hk : shift = 7 * k) (hh : header < 2 ^ shift) (s : Nat) : readHeader shift header data ≠ .error (.panic s) := by
  fun_induction readHeader shift header data generalizing k with
  | case1 | case2 | case4 => nofun
  | case3 shift header b _ bits hguard header' hge =>
    -- the guard has let through at most seven bits below position 63, or one bit at 63
    simp only [Bool.or_eq_true, decide_eq_true_eq, Bool.and_eq_true, beq_iff_eq, not_or, not_and] at hguard
    refine absurd hge (Nat.not_le.mpr ?_)
    by_cases h63 : shift = 63
    · subst h63
      exact add_mul_lt (n := 2) hh (by omega)
    · exact Nat.lt_of_lt_of_le (acc_lt hh (bits_lt b)) (Nat.pow_le_pow_right (by decide) (by omega))
  | case5 shift header b _ _ _ _ _ _ ih => exact ih (k + 1) (by omega) (acc_lt hh (bits_lt b))

end Ggrs.Codec
