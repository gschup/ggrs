/-
L-entry: the real entry point. `advanceFrameCore` (`advance_frame_after_poll`, which `advance_frame` runs
after polling, up to its final trim of the event queue) in rollback mode, with nobody reported as
disconnected, is a path of steps of the world the all-schedules theorems are about, so those theorems hold
for runs made of calls of the entry point itself. In lockstep mode the call keeps the lockstep invariants.
-/
import GgrsModel.Proofs.Checksums
import GgrsModel.Proofs.LockstepNet
import GgrsModel.Proofs.Calls

namespace Ggrs

/-- No running endpoint reports any player as disconnected. -/
def NoGossip (s : P2P) : Prop := ∀ h, (P2P.gossipOf s.remotes h).1 = true

theorem foldlM_id {σ α} (f : σ → α → M σ) (s : σ) (hf : ∀ a, f s a = .ok s) : ∀ (l : List α), l.foldlM f s = .ok s := by
  intro l
  induction l with
  | nil => rfl
  | cons a rest ih => rw [List.foldlM_cons, hf a]; exact ih

/-- The cut-off `update_player_disconnects` computes for a player from the endpoints' reports. -/
def adoptFrame (a : P2P) (h : Nat) : Frame :=
  if !(rget a.localConnectStatus h).disconnected then min (P2P.gossipOf a.remotes h).2 (rget a.localConnectStatus h).lastFrame
  else (P2P.gossipOf a.remotes h).2

/-- Does `update_player_disconnects` call `disconnect_player_at_frame` for this player? -/
def adopts (a : P2P) (h : Nat) : Bool :=
  !(P2P.gossipOf a.remotes h).1 &&
    (!(rget a.localConnectStatus h).disconnected || decide ((rget a.localConnectStatus h).lastFrame > adoptFrame a h))

theorem updIter (a : P2P) (now h : Nat) :
    (do
      let (queueConnected, queueMin) := P2P.gossipOf a.remotes h
      let lc := rget a.localConnectStatus h
      let localConnected := !lc.disconnected
      let queueMin := if localConnected then min queueMin lc.lastFrame else queueMin
      if !queueConnected && (localConnected || lc.lastFrame > queueMin) then
        a.disconnectPlayerAtFrame now h queueMin
      else pure a : M P2P) =
    if adopts a h then a.disconnectPlayerAtFrame now h (adoptFrame a h) else pure a := by
  unfold adopts adoptFrame
  cases P2P.gossipOf a.remotes h
  rfl

theorem updatePlayerDisconnects_skip (s : P2P) (now : Nat) (h : ∀ x, adopts s x = false) :
    s.updatePlayerDisconnects now = .ok s := by
  unfold P2P.updatePlayerDisconnects
  apply foldlM_id
  intro handle
  refine (updIter s now handle).trans ?_
  rw [h handle]
  rfl

theorem updatePlayerDisconnects_id (s : P2P) (now : Nat) (h : NoGossip s) : s.updatePlayerDisconnects now = .ok s :=
  updatePlayerDisconnects_skip s now fun x => by unfold adopts; rw [h x]; rfl

theorem waitRec_userExecute (s s' : P2P) (saves : List (Frame × Option Nat)) (h : s.checkWaitRecommendation = .ok s') :
    (s.userExecute saves).checkWaitRecommendation = .ok (s'.userExecute saves) := by
  have hcur : (s.userExecute saves).sync.currentFrame = s.sync.currentFrame := (userExecute_fields s saves).2.1
  rw [checkWaitRec_eq] at h ⊢
  have hs' := pure_ok h
  rw [← hs']
  have hmfa : (s.userExecute saves).maxFrameAdvantage = s.maxFrameAdvantage := rfl
  have hnrs : (s.userExecute saves).nextRecommendedSleep = s.nextRecommendedSleep := rfl
  rw [hmfa, hnrs, hcur]
  congr 1
  split <;> rfl

theorem CWStar.trans {G : Type} {step : G → List (Input × InputStatus) → G} {csf : G → Option Nat}
    {a b c : P2P × GS G} (h1 : CWStar step csf a b) (h2 : CWStar step csf b c) : CWStar step csf a c := by
  induction h2 with
  | refl => exact h1
  | step b c _ hs ih => exact CWStar.step _ _ _ ih hs

theorem desync_path {G : Type} (step : G → List (Input × InputStatus) → G) (csf : G → Option Nat)
    (s s1 : P2P) (x : GS G) (now : Nat) (h : s.desyncPhase now = .ok s1) :
    CWStar step csf (s, x) (s1, x) := by
  rcases P2P.desyncPhase_ok h with rfl | ⟨sr, hrep, rfl⟩
  · exact CWStar.refl _
  · exact CWStar.step _ _ _ (CWStar.step _ _ _ (CWStar.refl _) (CWStep.report s sr x now hrep)) (CWStep.compare sr x)

theorem desyncPhase_fields (s s1 : P2P) (now : Nat) (h : s.desyncPhase now = .ok s1) :
    P2P.SameCore s s1 ∧ s1.outgoingLocalInputs = s.outgoingLocalInputs ∧
    s1.nextSpectatorFrame = s.nextSpectatorFrame := by
  rcases P2P.desyncPhase_ok h with rfl | ⟨sr, hrep, rfl⟩
  · exact ⟨P2P.SameCore.refl _, rfl, rfl⟩
  · obtain ⟨hca, hoa⟩ := report_fields s sr now hrep
    obtain ⟨hcb, hob⟩ := compare_fields sr
    exact ⟨hca.trans hcb, hob.trans hoa, (compare_nsf sr).trans (report_nsf s sr now hrep)⟩

/-- The entry point is a path of the world: a successful rollback-mode `advanceFrameCore` call, made while
no running endpoint reports a disconnected player (`hng`, an assumption), with the game executing the
requests, is (report, compare)?, the call's core (`tick`, or `tick0` on the very first call), `waitRec`. -/
theorem call_is_path {G : Type} (step : G → List (Input × InputStatus) → G) (csf : G → Option Nat)
    (s s' : P2P) (x : GS G) (now : Nat) (reqs' : List Request)
    (hmp : (s.maxPrediction == 0) = false)
    (hng : ∀ s1, s.desyncPhase now = .ok s1 → NoGossip s1)
    (hcall : s.advanceFrameCore now = .ok (s', .ok reqs')) :
    CWStar step csf (s, x)
      (s'.userExecute (gameSaves step csf s.sync.cells.length x reqs'), execGs step s.sync.cells.length x reqs') ∧
    ∃ s1 s3 : P2P, CWStar step csf (s, x) (s1, x) ∧ P2P.SameCore s s1 ∧ P2P.SameCore s3 s' ∧
      (s1.advanceRollbackFrame now [] = .ok (s3, reqs') ∨
       ∃ sy r, s1.sync.currentFrame = 0 ∧ s1.sync.saveCurrentState = .ok (sy, r) ∧
         ({ s1 with sync := sy } : P2P).advanceRollbackFrame now [r] = .ok (s3, reqs')) := by
  obtain ⟨s1, s2, reqs0, sm, s3, hdes, hfs, hupd, hadv, hwait⟩ := P2P.advanceFrameCore_ok hcall
  have hp1 := desync_path step csf s s1 x now hdes
  obtain ⟨hc1, _, _⟩ := desyncPhase_fields s s1 now hdes
  have hmp1 : (s1.maxPrediction == 0) = false := by rw [hc1.maxPrediction]; exact hmp
  have hng1 : NoGossip s1 := hng s1 hdes
  have hw := waitRec_userExecute s3 s' (gameSaves step csf s.sync.cells.length x reqs') hwait
  suffices CWStep step csf (s1, x)
      (s3.userExecute (gameSaves step csf s1.sync.cells.length x reqs'), execGs step s1.sync.cells.length x reqs') ∧
      (s1.advanceRollbackFrame now [] = .ok (s3, reqs') ∨
       ∃ sy r, s1.sync.currentFrame = 0 ∧ s1.sync.saveCurrentState = .ok (sy, r) ∧
         ({ s1 with sync := sy } : P2P).advanceRollbackFrame now [r] = .ok (s3, reqs')) by
    obtain ⟨hcore, hform⟩ := this
    rw [hc1.sync] at hcore
    exact ⟨CWStar.step _ _ _ (CWStar.step _ _ _ hp1 hcore) (CWStep.waitRec _ _ _ hw),
      s1, s3, hp1, hc1, (waitRec_fields s3 s' hwait).1, hform⟩
  rcases P2P.firstSavePhase_ok hfs with ⟨rfl, rfl, _⟩ | ⟨hc0, sy, r, hsv, rfl, rfl⟩
  · rw [updatePlayerDisconnects_id _ now hng1] at hupd
    cases hupd
    rw [P2P.advanceByMode_rollback hmp1] at hadv
    exact ⟨CWStep.tick s2 s3 x now reqs' hadv, Or.inl hadv⟩
  · rw [updatePlayerDisconnects_id _ now (show NoGossip { s1 with sync := sy } from hng1)] at hupd
    cases hupd
    rw [P2P.advanceByMode_rollback (s := { s1 with sync := sy }) hmp1] at hadv
    exact ⟨CWStep.tick0 s1 s3 x now sy r reqs' hc0 hsv hadv, Or.inr ⟨sy, r, hc0, hsv, hadv⟩⟩

theorem LkNetInv_netOnly (s s' : P2P) (t : TLState) (h : LkNetInv (s, t)) (hc : P2P.SameCore s s')
    (ho : s'.outgoingLocalInputs = s.outgoingLocalInputs) (hn : s'.nextSpectatorFrame = s.nextSpectatorFrame) :
    LkNetInv (s', t) := by
  obtain ⟨⟨gh, hl, hg⟩, hnn⟩ := h
  have hl' : LkInv s' gh t := hl.grow (SessInv_congr s s' gh t [] hl.sess hc.pred hc.sync hc.statuses hc.handles)
    (by rw [hc.sync]; exact hl.idle) (by rw [hc.sync]) (by rw [hc.sync]) (fun _ => Nat.le_refl _)
  exact ⟨⟨gh, hl', GlueInv_transfer s s' gh gh hg ho hc.handles hc.statuses (by rw [hc.sync]) rfl⟩,
    by show 0 ≤ s'.nextSpectatorFrame; rw [hn]; exact hnn⟩

theorem firstSavePhase_lockstep (s : P2P) (h : (s.maxPrediction == 0) = true) : s.firstSavePhase = .ok (s, []) := by
  unfold P2P.firstSavePhase
  simp only [h, Bool.not_true, Bool.and_false, Bool.false_eq_true, if_false]
  rfl

/-- The entry point in lockstep mode (window 0), under the same assumption `hng`: the call keeps the
lockstep invariants and its request list is empty or a single AdvanceFrame. -/
theorem lockstep_call (s s' : P2P) (t : TLState) (now : Nat) (reqs' : List Request)
    (h : LkNetInv (s, t)) (hmp : (s.maxPrediction == 0) = true)
    (hng : ∀ s1, s.desyncPhase now = .ok s1 → NoGossip s1)
    (hcall : s.advanceFrameCore now = .ok (s', .ok reqs')) :
    LkNetInv (s', execReqs t reqs') ∧ (reqs' = [] ∨ ∃ ins, reqs' = [.advance ins]) := by
  obtain ⟨s1, s2, reqs0, sm, s3, hdes, hfs, hupd, hadv, hwait⟩ := P2P.advanceFrameCore_ok hcall
  obtain ⟨hc1, ho1, hn1⟩ := desyncPhase_fields s s1 now hdes
  have hmp1 : (s1.maxPrediction == 0) = true := by rw [hc1.maxPrediction]; exact hmp
  rw [firstSavePhase_lockstep s1 hmp1] at hfs
  cases hfs
  rw [updatePlayerDisconnects_id _ now (hng s1 hdes)] at hupd
  cases hupd
  rw [P2P.advanceByMode_lockstep hmp1] at hadv
  obtain ⟨⟨gh, hl, hg⟩, hn⟩ := LkNetInv_netOnly s s1 t h hc1 ho1 hn1
  obtain ⟨_, gh', _, _, _, _, hl', hg', hn', _⟩ := lockstepTick_net s1 s3 gh t now reqs' hl hg hn hadv
  obtain ⟨_, _, hcase, _⟩ := lockstepTick_spec s1 s3 gh t now reqs' hl hadv
  obtain ⟨hcw, how⟩ := waitRec_fields s3 s' hwait
  refine ⟨LkNetInv_netOnly s3 s' _ ⟨⟨gh', hl', hg'⟩, hn'⟩ hcw how (waitRec_nsf s3 s' hwait), ?_⟩
  rcases hcase with ⟨hre, _⟩ | ⟨c, _, hre, _⟩
  · exact Or.inl hre
  · exact Or.inr ⟨_, hre⟩

end Ggrs
