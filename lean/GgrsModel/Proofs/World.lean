/-
The session together with the game it drives (rollback mode, either saving mode): the game executes
every request list, the user's saves reach the cells. `WInv`: the session invariant, the saving mode's
quiescent check state matching the cells' tags, and the game on the replay of its timeline.
-/
import GgrsModel.Proofs.Consistent
import GgrsModel.Proofs.ConsistentSp
import GgrsModel.Proofs.Session

namespace Ggrs

/-- `SessInv` is stated over `TLState` (no game state, no cells), `GInv` over `GS`; `WInv` needs both. -/
theorem execGs_cur_R {G : Type} (step : G → List (Input × InputStatus) → G) (n : Nat) (x : GS G) (rs : List Request) :
    (execGs step n x rs).cur = (execReqs ⟨x.cur, x.R⟩ rs).cur ∧ (execGs step n x rs).R = (execReqs ⟨x.cur, x.R⟩ rs).R := by
  induction rs generalizing x with
  | nil => exact ⟨rfl, rfl⟩
  | cons r rs ih => cases r <;> exact ih _

def savedFrames : List Request → List Frame
  | [] => []
  | .save f :: rs => f :: savedFrames rs
  | _ :: rs => savedFrames rs

theorem userExecute_tags (n : Nat) (hn : 0 < n) : ∀ (rs : List Request) (saves : List (Frame × Option Nat)) (sy : SyncLayer)
    (tag : Nat → Int), sy.cells.length = n → (∀ i, i < n → tag i = (rget sy.cells i).frame) →
    saves.map (·.1) = savedFrames rs → (∀ f ∈ savedFrames rs, 0 ≤ f) →
    ∀ i, i < n → tagsAfter n tag rs i =
      (rget (saves.foldl (fun sy (p : Frame × Option Nat) => sy.userSave p.1 p.2) sy).cells i).frame := by
  intro rs
  induction rs with
  | nil =>
    intro saves sy tag _ htag hs _ i hi
    simp only [savedFrames, List.map_eq_nil_iff] at hs
    subst hs
    exact htag i hi
  | cons r rs ih =>
    intro saves sy tag hlen htag hs hpos i hi
    cases r with
    | save f =>
      simp only [savedFrames] at hs hpos
      cases saves with
      | nil => simp at hs
      | cons a as =>
        simp only [List.map_cons, List.cons.injEq] at hs
        obtain ⟨ha, has⟩ := hs
        simp only [tagsAfter, List.foldl_cons]
        have hf0 : 0 ≤ f := hpos f List.mem_cons_self
        have hidx : frameIdx a.1 sy.cells.length = f.toNat % n := by rw [ha, hlen, frameIdx_of_nonneg _ hf0]
        apply ih as (sy.userSave a.1 a.2) (upd tag (f.toNat % n) f)
          (by simp [SyncLayer.userSave, rset, hlen]) ?_ has (fun g hg => hpos g (List.mem_cons_of_mem _ hg)) i hi
        intro j hj
        simp only [SyncLayer.userSave, hidx]
        by_cases hje : j = f.toNat % n
        · rw [hje, upd_self, rget_rset_eq _ _ _ (by rw [hlen]; exact Nat.mod_lt _ hn), ha]
        · rw [upd_ne _ _ _ _ hje, rget_rset_ne _ _ _ _ (fun h => hje h.symm)]
          exact htag j hj
    | load f => exact ih saves sy tag hlen htag hs hpos i hi
    | advance ins => exact ih saves sy tag hlen htag hs hpos i hi

theorem chk_saved_nonneg (n : Nat) (c c' : CS) (rs : List Request) (h : ChkList n c rs c') :
    ∀ f ∈ savedFrames rs, 0 ≤ f := by
  induction h with
  | nil c => intro f hf; cases hf
  | cons c c1 c2 r rs hr _ ih =>
    intro f hf
    cases hr with
    | save g _ h0 =>
      simp only [savedFrames] at hf
      rcases List.mem_cons.mp hf with h1 | h1
      · rw [h1]; exact h0
      · exact ih f h1
    | load g _ _ _ _ => exact ih f hf
    | advance ins _ => exact ih f hf

def ModeInv (s : P2P) (c : CS) : Prop :=
  (s.sparse = false ∧ QInv s.sync.cells.length c ∧
    (0 < s.sync.currentFrame → ∀ i, i < s.sync.cells.length → c.tag i = (rget s.sync.cells i).frame)) ∨
  (s.sparse = true ∧ SQInv s.sync.cells.length c s.sync.lastSavedFrame)

structure WInv {G : Type} (step : G → List (Input × InputStatus) → G) (g0 : G) (s : P2P) (x : GS G) : Prop where
  sess : ∃ gh, SessInv s gh ⟨x.cur, x.R⟩ []
  ncells : 0 < s.sync.cells.length
  chk : ∃ c, c.cur = s.sync.currentFrame ∧ GInv step g0 s.sync.cells.length x c ∧
    (∀ i, i < s.sync.cells.length → c.tag i = (rget s.sync.cells i).frame) ∧ ModeInv s c

theorem ModeInv_congr (s s' : P2P) (c : CS) (hcl : s'.sync.cells = s.sync.cells)
    (hcur : s'.sync.currentFrame = s.sync.currentFrame) (hsp : s'.sparse = s.sparse)
    (hls : s'.sync.lastSavedFrame = s.sync.lastSavedFrame) (h : ModeInv s c) : ModeInv s' c := by
  unfold ModeInv at h ⊢
  rw [hcl, hcur, hsp, hls]
  exact h

theorem WInv_frame {G : Type} (step : G → List (Input × InputStatus) → G) (g0 : G)
    {s s' : P2P} {x : GS G} (h : WInv step g0 s x) (hsess : ∃ gh, SessInv s' gh ⟨x.cur, x.R⟩ [])
    (hcl : s'.sync.cells = s.sync.cells) (hcur : s'.sync.currentFrame = s.sync.currentFrame)
    (hsp : s'.sparse = s.sparse) (hls : s'.sync.lastSavedFrame = s.sync.lastSavedFrame) : WInv step g0 s' x := by
  obtain ⟨c, hc, hg, htags, hmode⟩ := h.chk
  refine ⟨hsess, ?_, c, ?_, ?_, ?_, ModeInv_congr s s' c hcl hcur hsp hls hmode⟩
  · rw [hcl]; exact h.ncells
  · rw [hcur]; exact hc
  · rw [hcl]; exact hg
  · rw [hcl]; exact htags

/-- C02, one call, either saving mode. The cells' tags follow once the user has executed the saves. -/
theorem tick_consistent (s s' : P2P) (now : Nat) (reqs reqs' : List Request)
    (h : s.advanceRollbackFrame now reqs = .ok (s', reqs')) (c : CS) (hn : 0 < s.sync.cells.length)
    (hcur : c.cur = s.sync.currentFrame) (hmode : ModeInv s c) :
    ∃ (new : List Request) (c' : CS), reqs' = reqs ++ new ∧ ChkList s.sync.cells.length c new c' ∧
      c'.cur = s'.sync.currentFrame ∧
      (s'.sync.currentFrame = s.sync.currentFrame ∨ s'.sync.currentFrame = s.sync.currentFrame + 1) ∧
      s'.sync.cells = s.sync.cells ∧ s'.sparse = s.sparse ∧
      ((s.sparse = false ∧ QInv s.sync.cells.length c') ∨
       (s.sparse = true ∧ SQInv s.sync.cells.length c' s'.sync.lastSavedFrame)) := by
  rcases hmode with ⟨hns, hq, ht⟩ | ⟨hsp, hq⟩
  · obtain ⟨new, c', a, b, d, e⟩ := tick_consistent_ns s s' now reqs reqs' hns h c hn hq hcur ht
    exact ⟨new, c', a, b, e.1, e.2.1, e.2.2.1, e.2.2.2, Or.inl ⟨hns, d⟩⟩
  · obtain ⟨new, c', a, b, d, e⟩ := tick_consistent_sp s s' now reqs reqs' hsp h c _ hn hq hcur
    exact ⟨new, c', a, b, e.1, e.2.1, e.2.2.1, e.2.2.2, Or.inr ⟨hsp, d⟩⟩

/-- The game's side of a call (no session invariant needed); `s` has already issued `pre`, checked from
`c` to `c0`. -/
theorem tick_game {G : Type} (step : G → List (Input × InputStatus) → G) (g0 : G) (s s' : P2P) (x : GS G)
    (now : Nat) (pre reqs' : List Request) (saves : List (Frame × Option Nat)) (c c0 : CS)
    (hn : 0 < s.sync.cells.length) (hg : GInv step g0 s.sync.cells.length x c)
    (htags : ∀ i, i < s.sync.cells.length → c.tag i = (rget s.sync.cells i).frame)
    (hl0 : ChkList s.sync.cells.length c pre c0) (hcur0 : c0.cur = s.sync.currentFrame) (hmode : ModeInv s c0)
    (hadv : s.advanceRollbackFrame now pre = .ok (s', reqs'))
    (hsaves : saves.map (·.1) = savedFrames reqs') :
    ∃ c', ChkList s.sync.cells.length c reqs' c' ∧ c'.cur = s'.sync.currentFrame ∧
      0 < (s'.userExecute saves).sync.cells.length ∧ c'.cur = (s'.userExecute saves).sync.currentFrame ∧
      GInv step g0 (s'.userExecute saves).sync.cells.length (execGs step s.sync.cells.length x reqs') c' ∧
      (∀ i, i < (s'.userExecute saves).sync.cells.length →
        c'.tag i = (rget (s'.userExecute saves).sync.cells i).frame) ∧
      ModeInv (s'.userExecute saves) c' ∧
      (s'.sync.currentFrame = s.sync.currentFrame ∨ s'.sync.currentFrame = s.sync.currentFrame + 1) ∧
      s'.sync.cells = s.sync.cells := by
  obtain ⟨new, c', rfl, hlnew, hcur', hstepc, hcl, hspp, hmode'⟩ := tick_consistent s s' now pre reqs' hadv c0 hn hcur0 hmode
  have hlall := ChkList_append _ c c0 c' _ _ hl0 hlnew
  obtain ⟨_, uc, ul, _, _, _, usp⟩ := userExecute_fields s' saves
  have htags' : ∀ i, i < s.sync.cells.length → c'.tag i = (rget (s'.userExecute saves).sync.cells i).frame := by
    intro i hi
    rw [chk_tags _ c c' _ hlall]
    exact userExecute_tags _ hn _ saves s'.sync c.tag (by rw [hcl]) (by rw [hcl]; exact htags) hsaves
      (chk_saved_nonneg _ c c' _ hlall) i hi
  rw [ul, uc, hcl]
  refine ⟨c', hlall, hcur', hn, hcur', GInv_execs step g0 _ hn x c c' _ hg hlall, htags', ?_, hstepc, rfl⟩
  unfold ModeInv
  rw [usp, hspp, ul, hcl, userExecute_lastSaved s' saves]
  rcases hmode' with ⟨a, b⟩ | ⟨a, b⟩
  · exact Or.inl ⟨a, b, fun _ => htags'⟩
  · exact Or.inr ⟨a, b⟩

theorem WInv_tick_core {G : Type} (step : G → List (Input × InputStatus) → G) (g0 : G) (s s' : P2P) (x : GS G)
    (now : Nat) (pre reqs' : List Request) (saves : List (Frame × Option Nat)) (gh : Ghost) (c c0 : CS)
    (hsess : SessInv s gh ⟨x.cur, x.R⟩ pre) (hn : 0 < s.sync.cells.length)
    (hg : GInv step g0 s.sync.cells.length x c)
    (htags : ∀ i, i < s.sync.cells.length → c.tag i = (rget s.sync.cells i).frame)
    (hl0 : ChkList s.sync.cells.length c pre c0) (hcur0 : c0.cur = s.sync.currentFrame) (hmode : ModeInv s c0)
    (hadv : s.advanceRollbackFrame now pre = .ok (s', reqs'))
    (hsaves : saves.map (·.1) = savedFrames reqs') :
    WInv step g0 (s'.userExecute saves) (execGs step s.sync.cells.length x reqs') ∧
    (∃ c', ChkList s.sync.cells.length c reqs' c' ∧ c'.cur = s'.sync.currentFrame) ∧
    (s'.sync.currentFrame = s.sync.currentFrame ∨ s'.sync.currentFrame = s.sync.currentFrame + 1) := by
  obtain ⟨_, _, _, _, gh', _, _, hsess', _⟩ := advanceRollbackFrame_spec s s' gh ⟨x.cur, x.R⟩ pre reqs' now hsess hadv
  obtain ⟨c', hlall, hcur', hn', hc', hg', htags', hmode', hstepc, _⟩ :=
    tick_game step g0 s s' x now pre reqs' saves c c0 hn hg htags hl0 hcur0 hmode hadv hsaves
  refine ⟨⟨⟨gh', ?_⟩, hn', c', hc', hg', htags', hmode'⟩, ⟨c', hlall, hcur'⟩, hstepc⟩
  obtain ⟨ecur, eR⟩ := execGs_cur_R step s.sync.cells.length x reqs'
  rw [ecur, eR]
  exact SessInv_userExecute s' gh' _ [] saves (SessInv_rebase s' gh' ⟨x.cur, x.R⟩ reqs' hsess')

theorem remoteInput_cells (s s' : P2P) (now : Nat) (inp : PlayerInput) (player : Nat) (handles : List Nat) (addr : Nat)
    (hev : s.handleEventCore now (.input inp player) handles addr = .ok s') :
    s'.sync.cells = s.sync.cells ∧ s'.sparse = s.sparse ∧ s'.sync.lastSavedFrame = s.sync.lastSavedFrame := by
  obtain ⟨_, hdis, hcon⟩ := P2P.handleEventCore_input_ok hev
  cases hd : (rget s.localConnectStatus player).disconnected
  · obtain ⟨_, sy, hadd, rfl⟩ := hcon hd
    obtain ⟨_, _, _, _, rfl⟩ := SyncLayer.addRemoteInput_ok hadd
    exact ⟨rfl, rfl, rfl⟩
  · rw [hdis hd]
    exact ⟨rfl, rfl, rfl⟩

/-- Steps of the world: a remote input arrives, the user submits a local input (`add_local_input`), or
`advance_frame` runs and the game executes the returned requests, its saves reaching the cells. `tick0` is
the very first call, where `advance_frame_after_poll` saves frame 0 before `advance_rollback_frame`. -/
inductive WStep {G : Type} (step : G → List (Input × InputStatus) → G) : (P2P × GS G) → (P2P × GS G) → Prop
  | remoteInput (s s' : P2P) (x : GS G) (now : Nat) (inp : PlayerInput) (player : Nat) (handles : List Nat)
      (addr : Nat) : player ∉ s.localPlayerHandles → 0 ≤ inp.frame →
      s.handleEventCore now (.input inp player) handles addr = .ok s' → WStep step (s, x) (s', x)
  | tick (s s' : P2P) (x : GS G) (now : Nat) (reqs' : List Request) (saves : List (Frame × Option Nat)) :
      s.advanceRollbackFrame now [] = .ok (s', reqs') → saves.map (·.1) = savedFrames reqs' →
      WStep step (s, x) (s'.userExecute saves, execGs step s.sync.cells.length x reqs')
  | tick0 (s s' : P2P) (x : GS G) (now : Nat) (sy : SyncLayer) (r : Request) (reqs' : List Request)
      (saves : List (Frame × Option Nat)) :
      s.sync.currentFrame = 0 → s.sync.saveCurrentState = .ok (sy, r) →
      ({ s with sync := sy } : P2P).advanceRollbackFrame now [r] = .ok (s', reqs') →
      saves.map (·.1) = savedFrames reqs' →
      WStep step (s, x) (s'.userExecute saves, execGs step s.sync.cells.length x reqs')
  | localInput (s : P2P) (x : GS G) (handle : Nat) (input : Input) :
      WStep step (s, x) ((s.addLocalInput handle input).1, x)

inductive WStar {G : Type} (step : G → List (Input × InputStatus) → G) : (P2P × GS G) → (P2P × GS G) → Prop
  | refl (w) : WStar step w w
  | step (a b c) : WStar step a b → WStep step b c → WStar step a c

def TickOK {G : Type} (step : G → List (Input × InputStatus) → G) (g0 : G) (s : P2P) (x : GS G) (s' : P2P)
    (reqs' : List Request) : Prop :=
  (∃ c c', GInv step g0 s.sync.cells.length x c ∧ ChkList s.sync.cells.length c reqs' c' ∧ c'.cur = s'.sync.currentFrame) ∧
  (s'.sync.currentFrame = s.sync.currentFrame ∨ s'.sync.currentFrame = s.sync.currentFrame + 1)

theorem WInv_tick {G : Type} (step : G → List (Input × InputStatus) → G) (g0 : G) (s s' : P2P) (x : GS G)
    (now : Nat) (reqs' : List Request) (saves : List (Frame × Option Nat)) (h : WInv step g0 s x)
    (hadv : s.advanceRollbackFrame now [] = .ok (s', reqs')) (hsaves : saves.map (·.1) = savedFrames reqs') :
    WInv step g0 (s'.userExecute saves) (execGs step s.sync.cells.length x reqs') ∧ TickOK step g0 s x s' reqs' := by
  obtain ⟨gh, hsess⟩ := h.sess
  obtain ⟨c, hcur, hg, htags, hmode⟩ := h.chk
  obtain ⟨a, ⟨c', b1, b2⟩, d⟩ := WInv_tick_core step g0 s s' x now [] reqs' saves gh c c hsess h.ncells hg htags
    (ChkList.nil c) hcur hmode hadv hsaves
  exact ⟨a, ⟨c, c', hg, b1, b2⟩, d⟩

theorem save0_chk (s : P2P) (sy : SyncLayer) (r : Request) (c : CS) (hcur : c.cur = s.sync.currentFrame)
    (h0 : s.sync.currentFrame = 0) (hsv : s.sync.saveCurrentState = .ok (sy, r))
    (hmode : ModeInv s c) :
    ∃ c0, ChkList s.sync.cells.length c [r] c0 ∧ c0.cur = sy.currentFrame ∧
      ModeInv ({ s with sync := sy } : P2P) c0 := by
  obtain ⟨h0', rfl, rfl⟩ := SyncLayer.saveCurrentState_ok hsv
  refine ⟨_, ChkList.cons c _ _ _ _ (Chk.save c _ hcur.symm h0') (ChkList.nil _), hcur, ?_⟩
  unfold ModeInv at hmode ⊢
  show (s.sparse = false ∧ QInv s.sync.cells.length _ ∧ (0 < s.sync.currentFrame → _)) ∨
    (s.sparse = true ∧ SQInv s.sync.cells.length _ s.sync.currentFrame)
  rw [← hcur]
  rcases hmode with ⟨a, b, _⟩ | ⟨a, b⟩
  · exact Or.inl ⟨a, QInv_save _ c b, fun hp => by omega⟩
  · exact Or.inr ⟨a, SQInv_save _ c _ b⟩

theorem WInv_tick0 {G : Type} (step : G → List (Input × InputStatus) → G) (g0 : G) (s s' : P2P) (x : GS G)
    (now : Nat) (sy : SyncLayer) (r : Request) (reqs' : List Request) (saves : List (Frame × Option Nat))
    (h : WInv step g0 s x) (h0 : s.sync.currentFrame = 0) (hsv : s.sync.saveCurrentState = .ok (sy, r))
    (hadv : ({ s with sync := sy } : P2P).advanceRollbackFrame now [r] = .ok (s', reqs'))
    (hsaves : saves.map (·.1) = savedFrames reqs') :
    WInv step g0 (s'.userExecute saves) (execGs step s.sync.cells.length x reqs') ∧ TickOK step g0 s x s' reqs' := by
  obtain ⟨gh, hsess⟩ := h.sess
  obtain ⟨c, hcur, hg, htags, hmode⟩ := h.chk
  obtain ⟨c0, hl0, hcur0, hmode0⟩ := save0_chk s sy r c hcur h0 hsv hmode
  have hsess1 := SessInv_save s gh _ [] sy r hsess hsv
  obtain ⟨_, rfl, rfl⟩ := SyncLayer.saveCurrentState_ok hsv
  obtain ⟨a, ⟨c', b1, b2⟩, d⟩ := WInv_tick_core step g0 _ s' x now _ reqs' saves gh c c0 hsess1 h.ncells hg htags
    hl0 hcur0 hmode0 hadv hsaves
  exact ⟨a, ⟨c, c', hg, b1, b2⟩, d⟩

theorem WInv_step {G : Type} (step : G → List (Input × InputStatus) → G) (g0 : G) (a b : P2P × GS G)
    (h : WInv step g0 a.1 a.2) (hs : WStep step a b) : WInv step g0 b.1 b.2 := by
  cases hs with
  | remoteInput s s' x now inp player handles addr hnl h0 hev =>
    obtain ⟨gh, hsess⟩ := h.sess
    obtain ⟨gh', hsess', _, hcur, _⟩ := remoteInput_spec s s' gh ⟨x.cur, x.R⟩ [] now inp player handles addr hsess hnl h0 hev
    obtain ⟨hcl, hsp, hls⟩ := remoteInput_cells s s' now inp player handles addr hev
    exact WInv_frame step g0 h ⟨gh', hsess'⟩ hcl hcur hsp hls
  | tick s s' x now reqs' saves hadv hsaves => exact (WInv_tick step g0 s s' x now reqs' saves h hadv hsaves).1
  | tick0 s s' x now sy r reqs' saves h0 hsv hadv hsaves =>
    exact (WInv_tick0 step g0 s s' x now sy r reqs' saves h h0 hsv hadv hsaves).1
  | localInput s x handle input =>
    obtain ⟨l, hl⟩ := P2P.addLocalInput_pending s handle input
    show WInv step g0 (s.addLocalInput handle input).1 x
    rw [hl]
    obtain ⟨gh, hsess⟩ := h.sess
    exact ⟨⟨gh, SessInv_pending s gh _ [] l hsess⟩, h.ncells, h.chk⟩

/-- L-world: along every run of the world the session invariant holds, the cells are tagged as the check
state says, and the game's state is the replay of its own timeline (`GInv.state`). -/
theorem WInv_run {G : Type} (step : G → List (Input × InputStatus) → G) (g0 : G) (a b : P2P × GS G)
    (h : WInv step g0 a.1 a.2) (hr : WStar step a b) : WInv step g0 b.1 b.2 := by
  induction hr with
  | refl => exact h
  | step b c _ hs ih => exact WInv_step step g0 b c ih hs

theorem WInv_init {G : Type} (step : G → List (Input × InputStatus) → G) (g0 : G) (s : P2P)
    (R : Nat → List (Input × InputStatus)) (cellG : Nat → G) (n : Nat)
    (hq : s.sync.queues = List.replicate n InputQueue.new) (hst : s.localConnectStatus = List.replicate n {})
    (hc : s.sync.currentFrame = 0) (hls : s.sync.lastSavedFrame = NULL_FRAME)
    (hcells : s.sync.cells = List.replicate (s.maxPrediction + 1) {}) :
    WInv step g0 s ⟨0, R, g0, cellG, fun _ => NULL_FRAME⟩ := by
  have hlen : s.sync.cells.length = s.maxPrediction + 1 := by rw [hcells]; simp
  have htags : ∀ i, i < s.sync.cells.length → (fun _ : Nat => NULL_FRAME) i = (rget s.sync.cells i).frame := by
    intro i hi
    rw [hcells]
    rw [hlen] at hi
    simp [rget, List.getD_eq_getElem?_getD, hi, NULL_FRAME]
  have hneg : ¬ (0 : Int) ≤ NULL_FRAME := by decide
  refine ⟨⟨_, SessInv_init s R n hq hst hc⟩, by rw [hlen]; omega,
    ⟨⟨0, fun _ => NULL_FRAME, fun _ => False⟩, hc.symm, ?_, htags, ?_⟩⟩
  · exact ⟨rfl, Int.le_refl _, fun _ _ => rfl, rfl, fun _ _ hv => absurd hv (fun h => h)⟩
  · unfold ModeInv
    cases hsp : s.sparse with
    | false => exact Or.inl ⟨rfl, ⟨Int.le_refl _, fun i _ h0 => absurd h0 hneg⟩, fun _ => htags⟩
    | true =>
      rw [hls]
      exact Or.inr ⟨rfl, Int.le_refl _, by decide, fun h0 => absurd h0 hneg, fun i _ h0 => absurd h0 hneg⟩

end Ggrs
