/-
Inversion lemmas `f_ok` for the functions of `SyncLayer` and `P2P` on the path of `advance_frame` and
`handle_event`: from `f … = .ok r`, the intermediate results and the equations between them. Not every
function has one, and some proofs elsewhere unfold a function themselves.
-/
import GgrsModel.Model.P2P
import GgrsModel.Proofs.Monad

namespace Ggrs

theorem pure_ok_pair {α β} {a a' : α} {b b' : β} (h : (pure (a, b) : M (α × β)) = .ok (a', b')) :
    a = a' ∧ b = b' :=
  Prod.mk.inj (pure_ok h)

namespace SyncLayer

theorem cellPos_ok {sy : SyncLayer} {f : Frame} {pos : Nat} (h : sy.cellPos f = .ok pos) :
    0 ≤ f ∧ pos = frameIdx f sy.cells.length := by
  unfold cellPos at h
  obtain ⟨h0, h⟩ := ensure_bind_ok h
  exact ⟨of_decide_eq_true h0, (pure_ok h).symm⟩

theorem saveCurrentState_ok {sy sy' : SyncLayer} {r : Request} (h : sy.saveCurrentState = .ok (sy', r)) :
    0 ≤ sy.currentFrame ∧ sy' = { sy with lastSavedFrame := sy.currentFrame } ∧ r = .save sy.currentFrame := by
  unfold saveCurrentState at h
  obtain ⟨_, hpos, h⟩ := bind_ok h
  obtain ⟨h1, h2⟩ := pure_ok_pair h
  exact ⟨(cellPos_ok hpos).1, h1.symm, h2.symm⟩

theorem loadFrame_ok {sy sy' : SyncLayer} {f : Frame} {r : Request} (h : sy.loadFrame f = .ok (sy', r)) :
    0 ≤ f ∧ f < sy.currentFrame ∧ sy.currentFrame - sy.maxPrediction ≤ f ∧
    (rget sy.cells (frameIdx f sy.cells.length)).frame = f ∧
    sy' = { sy with currentFrame := f } ∧ r = .load f := by
  unfold loadFrame at h
  obtain ⟨_, h⟩ := ensure_bind_ok h
  obtain ⟨h2, h⟩ := ensure_bind_ok h
  obtain ⟨h3, h⟩ := ensure_bind_ok h
  obtain ⟨pos, hpos, h⟩ := bind_ok h
  obtain ⟨h4, h⟩ := ensure_bind_ok h
  obtain ⟨h5, h6⟩ := pure_ok_pair h
  obtain ⟨h0, rfl⟩ := cellPos_ok hpos
  exact ⟨h0, of_decide_eq_true h2, of_decide_eq_true h3, eq_of_beq h4, h5.symm, h6.symm⟩

theorem synchronizedInputs_ok {pr : Predictor} {sy sy' : SyncLayer} {st : List ConnStatus}
    {ins : List (Input × InputStatus)} (h : sy.synchronizedInputs pr st = .ok (sy', ins)) :
    ∃ qs, synchronizedInputsLoop pr sy.currentFrame st 0 sy.queues [] = .ok (qs, ins) ∧
      sy' = { sy with queues := qs } := by
  unfold synchronizedInputs at h
  obtain ⟨⟨qs, ins'⟩, hloop, h⟩ := bind_ok h
  obtain ⟨h1, rfl⟩ := pure_ok_pair h
  exact ⟨qs, hloop, h1.symm⟩

theorem synchronizedInputsLoop_cons_ok {pr : Predictor} {cur : Frame} {cs : ConnStatus} {rest : List ConnStatus}
    {i : Nat} {qs : List InputQueue} {acc : List (Input × InputStatus)}
    {r : List InputQueue × List (Input × InputStatus)}
    (h : synchronizedInputsLoop pr cur (cs :: rest) i qs acc = .ok r) :
    ∃ qs1 x, synchronizedInputsLoop pr cur rest (i + 1) qs1 (x :: acc) = .ok r ∧
      ((cs.disconnected = true ∧ cs.lastFrame < cur) ∧ qs1 = qs ∧ x = (0, .disconnected) ∨
       ¬ (cs.disconnected = true ∧ cs.lastFrame < cur) ∧ i < qs.length ∧
         ∃ q, (rget qs i).input pr cur = .ok (q, x) ∧ qs1 = rset qs i q) := by
  by_cases hsk : cs.disconnected = true ∧ cs.lastFrame < cur
  · have hc : (cs.disconnected && decide (cs.lastFrame < cur)) = true := by
      simp only [Bool.and_eq_true, decide_eq_true_eq]; exact hsk
    simp only [synchronizedInputsLoop, hc, if_true] at h
    exact ⟨qs, _, h, Or.inl ⟨hsk, rfl, rfl⟩⟩
  · have hc : (cs.disconnected && decide (cs.lastFrame < cur)) = false := by
      simp only [Bool.and_eq_false_iff, decide_eq_false_iff_not]
      by_cases hd : cs.disconnected = true
      · exact Or.inr fun hl => hsk ⟨hd, hl⟩
      · exact Or.inl (by simpa using hd)
    simp only [synchronizedInputsLoop, hc, Bool.false_eq_true, if_false] at h
    obtain ⟨hi, h⟩ := ensure_bind_ok h
    obtain ⟨⟨q, x⟩, hin, h⟩ := bind_ok h
    exact ⟨_, x, h, Or.inr ⟨hsk, of_decide_eq_true hi, q, hin, rfl⟩⟩

theorem confirmedInputsLoop_spec (frame : Frame) (qs : List InputQueue) :
    ∀ (st : List ConnStatus) (i : Nat) (acc out : List PlayerInput),
    confirmedInputsLoop frame qs st i acc = .ok out →
    ∃ l : List PlayerInput, out = acc.reverse ++ l ∧ l.length = st.length ∧
      ∀ k, k < st.length →
        ((rget st k).disconnected = true ∧ (rget st k).lastFrame < frame → rget l k = PlayerInput.blank NULL_FRAME) ∧
        (¬ ((rget st k).disconnected = true ∧ (rget st k).lastFrame < frame) →
          i + k < qs.length ∧ (rget qs (i + k)).confirmedInput frame = .ok (rget l k)) := by
  intro st
  induction st with
  | nil =>
    intro i acc out h
    simp only [confirmedInputsLoop] at h
    cases h
    exact ⟨[], by simp, rfl, fun k hk => by simp at hk⟩
  | cons cs rest ih =>
    intro i acc out h
    obtain ⟨pi, hblank, hreal, h⟩ : ∃ pi, (cs.disconnected = true ∧ cs.lastFrame < frame → pi = PlayerInput.blank NULL_FRAME) ∧
        (¬ (cs.disconnected = true ∧ cs.lastFrame < frame) → i < qs.length ∧ (rget qs i).confirmedInput frame = .ok pi) ∧
        confirmedInputsLoop frame qs rest (i + 1) (pi :: acc) = .ok out := by
      have hc : (cs.disconnected && decide (cs.lastFrame < frame)) = true ↔ cs.disconnected = true ∧ cs.lastFrame < frame := by
        simp only [Bool.and_eq_true, decide_eq_true_eq]
      by_cases hsk : cs.disconnected = true ∧ cs.lastFrame < frame
      · simp only [confirmedInputsLoop, hc.mpr hsk, if_true] at h
        exact ⟨_, fun _ => rfl, fun hn => absurd hsk hn, h⟩
      · simp only [confirmedInputsLoop, mt hc.mp hsk] at h
        obtain ⟨hi, h⟩ := ensure_bind_ok h
        obtain ⟨pi, hpi, h⟩ := bind_ok h
        exact ⟨pi, fun hs => absurd hs hsk, fun _ => ⟨of_decide_eq_true hi, hpi⟩, h⟩
    obtain ⟨l, hout, hlen, hpt⟩ := ih (i + 1) (pi :: acc) out h
    refine ⟨pi :: l, by rw [hout]; simp, by simp [hlen], ?_⟩
    intro k hk
    cases k with
    | zero => exact ⟨hblank, hreal⟩
    | succ k =>
      rw [show i + (k + 1) = i + 1 + k from (Nat.add_right_comm i 1 k).symm]
      exact hpt k (Nat.lt_of_succ_lt_succ hk)

theorem confirmedInputs_ok {sy : SyncLayer} {frame : Frame} {st : List ConnStatus} {out : List PlayerInput}
    (h : sy.confirmedInputs frame st = .ok out) :
    out.length = st.length ∧ ∀ k, k < st.length →
      ((rget st k).disconnected = true ∧ (rget st k).lastFrame < frame → rget out k = PlayerInput.blank NULL_FRAME) ∧
      (¬ ((rget st k).disconnected = true ∧ (rget st k).lastFrame < frame) →
        k < sy.queues.length ∧ (rget sy.queues k).confirmedInput frame = .ok (rget out k)) := by
  unfold confirmedInputs at h
  obtain ⟨l, hout, hlen, hpt⟩ := confirmedInputsLoop_spec _ _ _ 0 [] out h
  rw [List.reverse_nil, List.nil_append] at hout
  subst hout
  refine ⟨hlen, fun k hk => ?_⟩
  have := hpt k hk
  rw [Nat.zero_add] at this
  exact this

theorem addLocalInput_ok {sy sy' : SyncLayer} {hd : Nat} {inp : PlayerInput} {f : Frame}
    (h : sy.addLocalInput hd inp = .ok (sy', f)) :
    inp.frame = sy.currentFrame ∧ hd < sy.queues.length ∧
    ∃ q, (rget sy.queues hd).addInput inp = .ok (q, f) ∧ sy' = { sy with queues := rset sy.queues hd q } := by
  unfold addLocalInput at h
  obtain ⟨h1, h⟩ := ensure_bind_ok h
  obtain ⟨h2, h⟩ := ensure_bind_ok h
  obtain ⟨⟨q, f'⟩, hq, h⟩ := bind_ok h
  obtain ⟨h3, rfl⟩ := pure_ok_pair h
  exact ⟨eq_of_beq h1, of_decide_eq_true h2, q, hq, h3.symm⟩

theorem setFrameDelay_ok {sy sy' : SyncLayer} {hd d : Nat} {fills : List PlayerInput}
    (h : sy.setFrameDelay hd d = .ok (sy', fills)) :
    hd < sy.numPlayers ∧
    ∃ q, (rget sy.queues hd).setFrameDelay d = .ok (q, fills) ∧ sy' = { sy with queues := rset sy.queues hd q } := by
  unfold setFrameDelay at h
  obtain ⟨h1, h⟩ := ensure_bind_ok h
  obtain ⟨⟨q, fl⟩, hq, h⟩ := bind_ok h
  obtain ⟨h2, rfl⟩ := pure_ok_pair h
  exact ⟨of_decide_eq_true h1, q, hq, h2.symm⟩

theorem addRemoteInput_ok {sy sy' : SyncLayer} {hd : Nat} {inp : PlayerInput}
    (h : sy.addRemoteInput hd inp = .ok sy') :
    hd < sy.queues.length ∧
    ∃ q f, (rget sy.queues hd).addInput inp = .ok (q, f) ∧ sy' = { sy with queues := rset sy.queues hd q } := by
  unfold addRemoteInput at h
  obtain ⟨h1, h⟩ := ensure_bind_ok h
  obtain ⟨⟨q, f⟩, hq, h⟩ := bind_ok h
  exact ⟨of_decide_eq_true h1, q, f, hq, (pure_ok h).symm⟩

theorem setLastConfirmedFrame_ok {sy sy' : SyncLayer} {frame : Frame} {sparse : Bool}
    (h : sy.setLastConfirmedFrame frame sparse = .ok sy') :
    ∃ fr qs, fr = min (if sparse then min frame sy.lastSavedFrame else frame) sy.currentFrame ∧
      sy' = { sy with lastConfirmedFrame := fr, queues := qs } ∧
      (0 < fr → sy.queues.mapM (fun q => q.discardConfirmedFrames (fr - 1)) = .ok qs) ∧
      (¬ 0 < fr → qs = sy.queues) := by
  unfold setLastConfirmedFrame at h
  simp only at h
  generalize min (if sparse = true then min frame sy.lastSavedFrame else frame) sy.currentFrame = fr at h
  obtain ⟨_, h⟩ := ensure_bind_ok h
  by_cases hpos : fr > 0
  · rw [if_pos hpos] at h
    obtain ⟨qs, hmap, h⟩ := bind_ok h
    exact ⟨fr, qs, rfl, (pure_ok h).symm, fun _ => hmap, fun hn => absurd hpos hn⟩
  · rw [if_neg hpos] at h
    exact ⟨fr, sy.queues, rfl, (pure_ok h).symm, fun hp => absurd hp hpos, fun _ => rfl⟩

end SyncLayer

namespace P2P

theorem confirmedFrame_ok {s : P2P} {c : Frame} (h : s.confirmedFrame = .ok c) :
    c = s.localConnectStatus.foldl (fun m cs => if !cs.disconnected then min m cs.lastFrame else m) Endpoint.i32Max ∧
    c < Endpoint.i32Max := by
  unfold confirmedFrame at h
  simp only at h
  obtain ⟨hlt, h⟩ := ensure_bind_ok h
  obtain rfl := pure_ok h
  exact ⟨rfl, of_decide_eq_true hlt⟩

theorem confirmedFold_le : ∀ (l : List ConnStatus) (m : Frame),
    l.foldl (fun m cs => if !cs.disconnected then min m cs.lastFrame else m) m ≤ m ∧
    ∀ cs ∈ l, cs.disconnected = false →
      l.foldl (fun m cs => if !cs.disconnected then min m cs.lastFrame else m) m ≤ cs.lastFrame
  | [], m => ⟨Int.le_refl _, fun _ hcs => nomatch hcs⟩
  | x :: xs, m => by
    obtain ⟨h1, h2⟩ := confirmedFold_le xs (if !x.disconnected then min m x.lastFrame else m)
    rw [List.foldl_cons]
    refine ⟨Int.le_trans h1 ?_, fun cs hcs hconn => ?_⟩
    · split
      · exact Int.min_le_left _ _
      · exact Int.le_refl _
    · rcases List.mem_cons.mp hcs with rfl | hin
      · rw [hconn, Bool.not_false, if_pos rfl] at h1 ⊢
        exact Int.le_trans h1 (Int.min_le_right _ _)
      · exact h2 cs hin hconn

theorem confirmedFrame_le_mem {s : P2P} {c : Frame} (h : s.confirmedFrame = .ok c) :
    c < Endpoint.i32Max ∧ ∀ cs ∈ s.localConnectStatus, cs.disconnected = false → c ≤ cs.lastFrame := by
  obtain ⟨rfl, hlt⟩ := confirmedFrame_ok h
  exact ⟨hlt, (confirmedFold_le _ _).2⟩

theorem handleEventCore_input_ok {s s' : P2P} {now : Nat} {inp : PlayerInput} {player : Nat} {handles : List Nat}
    {addr : Nat} (h : s.handleEventCore now (.input inp player) handles addr = .ok s') :
    player < s.numPlayers ∧
    ((rget s.localConnectStatus player).disconnected = true → s' = s) ∧
    ((rget s.localConnectStatus player).disconnected = false →
      ((rget s.localConnectStatus player).lastFrame = NULL_FRAME ∨
        (rget s.localConnectStatus player).lastFrame + 1 = inp.frame) ∧
      ∃ sync, s.sync.addRemoteInput player inp = .ok sync ∧
        s' = { s.setStatus player fun c => { c with lastFrame := inp.frame } with sync := sync }) := by
  unfold handleEventCore at h
  simp only at h
  obtain ⟨hp, h⟩ := ensure_bind_ok h
  refine ⟨of_decide_eq_true hp, fun hd => ?_, fun hd => ?_⟩
  · rw [hd] at h
    exact (pure_ok h).symm
  · rw [hd] at h
    simp only [Bool.not_false, if_true] at h
    obtain ⟨hseq, h⟩ := ensure_bind_ok h
    obtain ⟨sync, hadd, h⟩ := bind_ok h
    exact ⟨by simpa using hseq, sync, hadd, (pure_ok h).symm⟩

theorem handleEventCore_disconnected_ok {s s' : P2P} {now : Nat} {handles : List Nat} {addr : Nat}
    (h : s.handleEventCore now .disconnected handles addr = .ok s') :
    ∃ s1, handles.foldlM (fun s h =>
        let lastFrame := if h < s.numPlayers then (rget s.localConnectStatus h).lastFrame else NULL_FRAME
        s.disconnectPlayerAtFrame now h lastFrame) s = .ok s1 ∧
      s' = s1.pushEvent (.disconnected addr) := by
  unfold handleEventCore at h
  simp only at h
  obtain ⟨s1, hfold, h⟩ := bind_ok h
  exact ⟨s1, hfold, (pure_ok h).symm⟩

theorem queueOutgoingLocalInput_ok {s s' : P2P} {handle : Nat} {inp : PlayerInput}
    (h : s.queueOutgoingLocalInput handle inp = .ok s') :
    inp.frame ≠ NULL_FRAME ∧
    ((s.remotes.isEmpty = true ∧ s' = s) ∨
     (s.remotes.isEmpty = false ∧ s' = { s with outgoingLocalInputs := (ainsert inp.frame
        (((alookup inp.frame s.outgoingLocalInputs).getD []).filter (·.1 != handle) ++ [(handle, inp)])
        s.outgoingLocalInputs) })) := by
  unfold queueOutgoingLocalInput at h
  obtain ⟨h0, h⟩ := ensure_bind_ok h
  refine ⟨bne_iff_ne.mp h0, ?_⟩
  cases he : s.remotes.isEmpty
  · rw [he] at h
    exact Or.inr ⟨rfl, (pure_ok h).symm⟩
  · rw [he] at h
    exact Or.inl ⟨rfl, (pure_ok h).symm⟩

theorem sendFrameToRemotes_ok {s s' : P2P} {now : Nat} {frame : Frame} {inputs : List (Nat × PlayerInput)}
    (h : s.sendFrameToRemotes now frame inputs = .ok s') :
    ∃ remotes out, s' = { s with outgoingLocalInputs := aerase frame s.outgoingLocalInputs, remotes := remotes
                                 outbox := s.outbox ++ out, lastSentOutgoingInputFrame := frame } := by
  unfold sendFrameToRemotes at h
  obtain ⟨⟨remotes, out⟩, _, h⟩ := bind_ok h
  exact ⟨remotes, out, (pure_ok h).symm⟩

theorem offerToSpectators_ok {s s' : P2P} {now : Nat} {inputMap : List (Nat × PlayerInput)}
    (h : s.offerToSpectators now inputMap = .ok s') :
    ∃ spectators out, s' = { s with spectators := spectators, outbox := s.outbox ++ out
                                    nextSpectatorFrame := s.nextSpectatorFrame + 1 } := by
  unfold offerToSpectators at h
  obtain ⟨⟨spectators, out⟩, _, h⟩ := bind_ok h
  exact ⟨spectators, out, (pure_ok h).symm⟩

theorem registerOne_ok {s s' : P2P} {hd : Nat} (h : s.registerOne hd = .ok s') :
    ∃ pi sync actual, s.pendingInputOf hd = .ok pi ∧ s.sync.addLocalInput hd pi = .ok (sync, actual) ∧
      (actual = NULL_FRAME → s' = { s with sync := sync }) ∧
      (actual ≠ NULL_FRAME → ∃ s2, ({ s with sync := sync } : P2P).queueInitialBlanks hd actual = .ok s2 ∧
        (s2.setStatus hd fun c => { c with lastFrame := actual }).queueOutgoingLocalInput hd ⟨actual, pi.input⟩
          = .ok s') := by
  unfold registerOne at h
  obtain ⟨pi, hpi, h⟩ := bind_ok h
  obtain ⟨⟨sync, actual⟩, hadd, h⟩ := bind_ok h
  refine ⟨pi, sync, actual, hpi, hadd, fun ha => ?_, fun ha => ?_⟩
  · simp only [ha, bne_self_eq_false, Bool.false_eq_true, if_false] at h
    exact (pure_ok h).symm
  · have ha' : (actual != NULL_FRAME) = true := bne_iff_ne.mpr ha
    simp only [ha', if_true] at h
    exact bind_ok h

theorem registerLocalInputs_ok {s s' : P2P} {now : Nat} (h : s.registerLocalInputs now = .ok s') :
    ∃ s1, s.localPlayerHandles.foldlM registerOne s = .ok s1 ∧ s1.sendReadyOutgoingInputsToRemotes now = .ok s' :=
  bind_ok h

theorem resimSave_ok {s : P2P} {mc : Frame} {i : Nat} {sy sy' : SyncLayer} {reqs reqs' : List Request}
    (h : s.resimSave mc i sy reqs = .ok (sy', reqs')) :
    ((s.sparse = true ∧ sy.currentFrame = mc ∨ s.sparse = false ∧ 0 < i) ∧
      ∃ r, sy.saveCurrentState = .ok (sy', r) ∧ reqs' = reqs ++ [r]) ∨
    (¬ (s.sparse = true ∧ sy.currentFrame = mc ∨ s.sparse = false ∧ 0 < i) ∧ sy' = sy ∧ reqs' = reqs) := by
  have sv : ∀ {sy' reqs'}, (do let (sync, r) ← sy.saveCurrentState; pure (sync, reqs ++ [r]) : M (SyncLayer × List Request))
      = .ok (sy', reqs') → ∃ r, sy.saveCurrentState = .ok (sy', r) ∧ reqs' = reqs ++ [r] := by
    intro sy' reqs' h
    obtain ⟨⟨sy3, r⟩, hs, h⟩ := bind_ok h
    obtain ⟨rfl, h2⟩ := pure_ok_pair h
    exact ⟨r, hs, h2.symm⟩
  unfold resimSave at h
  cases hsp : s.sparse
  · simp only [hsp, Bool.false_eq_true, if_false] at h
    by_cases hi : i > 0
    · rw [if_pos hi] at h
      exact Or.inl ⟨Or.inr ⟨rfl, hi⟩, sv h⟩
    · rw [if_neg hi] at h
      obtain ⟨h1, h2⟩ := pure_ok_pair h
      exact Or.inr ⟨fun hc => hc.elim (fun x => Bool.noConfusion x.1) (fun x => hi x.2), h1.symm, h2.symm⟩
  · simp only [hsp, if_true] at h
    by_cases hm : sy.currentFrame = mc
    · rw [if_pos (beq_iff_eq.mpr hm)] at h
      exact Or.inl ⟨Or.inl ⟨rfl, hm⟩, sv h⟩
    · rw [if_neg (mt beq_iff_eq.mp hm)] at h
      obtain ⟨h1, h2⟩ := pure_ok_pair h
      exact Or.inr ⟨fun hc => hc.elim (fun x => hm x.2) (fun x => Bool.noConfusion x.1), h1.symm, h2.symm⟩

theorem adjustGamestate_loop_succ_ok {s : P2P} {mc : Frame} {n i : Nat} {sy sy' : SyncLayer} {reqs reqs' : List Request}
    (h : adjustGamestate.loop s mc (n + 1) i sy reqs = .ok (sy', reqs')) :
    ∃ sy1 ins sy2 reqs2, sy.synchronizedInputs s.pred s.localConnectStatus = .ok (sy1, ins) ∧
      s.resimSave mc i sy1 reqs = .ok (sy2, reqs2) ∧
      adjustGamestate.loop s mc n (i + 1) sy2.advanceFrame (reqs2 ++ [.advance ins]) = .ok (sy', reqs') := by
  simp only [adjustGamestate.loop] at h
  obtain ⟨⟨sy1, ins⟩, hsim, h⟩ := bind_ok h
  obtain ⟨⟨sy2, reqs2⟩, hsave, h⟩ := bind_ok h
  exact ⟨sy1, ins, sy2, reqs2, hsim, hsave, h⟩

theorem adjustGamestate_ok {s s' : P2P} {fi mc : Frame} {reqs reqs' : List Request}
    (h : s.adjustGamestate fi mc reqs = .ok (s', reqs')) :
    ∃ r sy1 req sy2, r = (if s.sparse then s.sync.lastSavedFrame else fi) ∧ r ≤ fi ∧
      s.sync.loadFrame r = .ok (sy1, req) ∧
      adjustGamestate.loop s mc (s.sync.currentFrame - r).toNat 0 sy1.resetPrediction (reqs ++ [req]) = .ok (sy2, reqs') ∧
      sy2.currentFrame = s.sync.currentFrame ∧ s' = { s with sync := sy2 } := by
  unfold adjustGamestate at h
  simp only at h
  generalize (if s.sparse = true then s.sync.lastSavedFrame else fi) = r at h
  obtain ⟨hle, h⟩ := ensure_bind_ok h
  obtain ⟨⟨sy1, req⟩, hload, h⟩ := bind_ok h
  obtain ⟨_, h⟩ := ensure_bind_ok h
  obtain ⟨⟨sy2, reqs2⟩, hloop, h⟩ := bind_ok h
  obtain ⟨hback, h⟩ := ensure_bind_ok h
  obtain ⟨h1, rfl⟩ := pure_ok_pair h
  exact ⟨r, sy1, req, sy2, rfl, of_decide_eq_true hle, hload, hloop, eq_of_beq hback, h1.symm⟩

theorem rollbackIfNeeded_ok {s s' : P2P} {confirmed : Frame} {reqs reqs' : List Request}
    (h : s.rollbackIfNeeded confirmed reqs = .ok (s', reqs')) :
    (s.sync.checkSimulationConsistency s.disconnectFrame = NULL_FRAME ∧ s' = s ∧ reqs' = reqs) ∨
    (s.sync.checkSimulationConsistency s.disconnectFrame ≠ NULL_FRAME ∧
      ∃ s1, s.adjustGamestate (s.sync.checkSimulationConsistency s.disconnectFrame) confirmed reqs = .ok (s1, reqs') ∧
        s' = { s1 with disconnectFrame := NULL_FRAME }) := by
  unfold rollbackIfNeeded at h
  simp only at h
  by_cases hfi : s.sync.checkSimulationConsistency s.disconnectFrame = NULL_FRAME
  · simp only [hfi, bne_self_eq_false, Bool.false_eq_true, if_false] at h
    obtain ⟨h1, h2⟩ := pure_ok_pair h
    exact Or.inl ⟨hfi, h1.symm, h2.symm⟩
  · rw [if_pos (bne_iff_ne.mpr hfi)] at h
    obtain ⟨⟨s1, reqs1⟩, hadj, h⟩ := bind_ok h
    obtain ⟨h1, rfl⟩ := pure_ok_pair h
    exact Or.inr ⟨hfi, s1, hadj, h1.symm⟩

theorem saveAfterRollback_ok {s s' : P2P} {confirmed : Frame} {reqs reqs' : List Request}
    (h : s.saveAfterRollback confirmed reqs = .ok (s', reqs')) :
    (s.sparse = true ∧ s.sync.currentFrame - s.sync.lastSavedFrame < s.maxPrediction ∧ s' = s ∧ reqs' = reqs) ∨
    ((s.sparse = true → (s.maxPrediction : Int) ≤ s.sync.currentFrame - s.sync.lastSavedFrame ∧
        s.sync.currentFrame ≤ confirmed) ∧
      ∃ sy r, s.sync.saveCurrentState = .ok (sy, r) ∧ s' = { s with sync := sy } ∧ reqs' = reqs ++ [r]) ∨
    (s.sparse = true ∧ (s.maxPrediction : Int) ≤ s.sync.currentFrame - s.sync.lastSavedFrame ∧
      confirmed < s.sync.currentFrame ∧ s.adjustGamestate s.sync.lastSavedFrame confirmed reqs = .ok (s', reqs')) := by
  have sv : ∀ {s' reqs'}, (do let (sync, r) ← s.sync.saveCurrentState; pure ({ s with sync }, reqs ++ [r]) : M (P2P × List Request))
      = .ok (s', reqs') → ∃ sy r, s.sync.saveCurrentState = .ok (sy, r) ∧ s' = { s with sync := sy } ∧ reqs' = reqs ++ [r] := by
    intro s' reqs' h
    obtain ⟨⟨sy, r⟩, hs, h⟩ := bind_ok h
    obtain ⟨h1, h2⟩ := pure_ok_pair h
    exact ⟨sy, r, hs, h1.symm, h2.symm⟩
  unfold saveAfterRollback at h
  by_cases hsp : s.sparse = true
  · rw [if_pos hsp] at h
    unfold checkLastSavedState at h
    by_cases hold : s.sync.currentFrame - s.sync.lastSavedFrame ≥ (s.maxPrediction : Int)
    · rw [if_pos hold] at h
      obtain ⟨⟨s2, reqs2⟩, hsr, h⟩ := bind_ok h
      obtain ⟨_, h⟩ := ensure_bind_ok h
      obtain ⟨rfl, rfl⟩ := pure_ok_pair h
      unfold saveOrRollbackToSaved at hsr
      by_cases hc : confirmed ≥ s.sync.currentFrame
      · rw [if_pos hc] at hsr
        exact Or.inr (Or.inl ⟨fun _ => ⟨hold, hc⟩, sv hsr⟩)
      · rw [if_neg hc] at hsr
        exact Or.inr (Or.inr ⟨hsp, hold, Int.not_le.mp hc, hsr⟩)
    · rw [if_neg hold] at h
      obtain ⟨h1, h2⟩ := pure_ok_pair h
      exact Or.inl ⟨hsp, Int.not_le.mp hold, h1.symm, h2.symm⟩
  · rw [if_neg hsp] at h
    exact Or.inr (Or.inl ⟨fun hc => absurd hc hsp, sv h⟩)

theorem handleRollbackAndSave_ok {s s' : P2P} {confirmed : Frame} {reqs reqs' : List Request}
    (h : s.handleRollbackAndSave confirmed reqs = .ok (s', reqs')) :
    ∃ s1 reqs1, s.rollbackIfNeeded confirmed reqs = .ok (s1, reqs1) ∧
      s1.saveAfterRollback confirmed reqs1 = .ok (s', reqs') := by
  unfold handleRollbackAndSave at h
  obtain ⟨⟨s1, reqs1⟩, h1, h⟩ := bind_ok h
  exact ⟨s1, reqs1, h1, h⟩

theorem rollbackGate_ok {s s' : P2P} {reqs reqs' : List Request} (h : s.rollbackGate reqs = .ok (s', reqs')) :
    (¬ s.framesAheadOfConfirmed < s.maxPrediction ∧ s' = s ∧ reqs' = reqs) ∨
    (s.framesAheadOfConfirmed < s.maxPrediction ∧
      ∃ sy ins, s.sync.synchronizedInputs s.pred s.localConnectStatus = .ok (sy, ins) ∧
        s' = { s with sync := sy.advanceFrame, pendingLocalInputs := [] } ∧ reqs' = reqs ++ [.advance ins]) := by
  unfold rollbackGate at h
  by_cases hg : s.framesAheadOfConfirmed < (s.maxPrediction : Int)
  · rw [if_pos hg] at h
    obtain ⟨⟨sy, ins⟩, hsim, h⟩ := bind_ok h
    obtain ⟨h1, h2⟩ := pure_ok_pair h
    exact Or.inr ⟨hg, sy, ins, hsim, h1.symm, h2.symm⟩
  · rw [if_neg hg] at h
    obtain ⟨h1, h2⟩ := pure_ok_pair h
    exact Or.inl ⟨hg, h1.symm, h2.symm⟩

theorem advanceRollbackFrame_ok {s s' : P2P} {now : Nat} {reqs reqs' : List Request}
    (h : s.advanceRollbackFrame now reqs = .ok (s', reqs')) :
    ∃ confirmed s1 reqs1 s2 sy3 s4, s.confirmedFrame = .ok confirmed ∧
      s.handleRollbackAndSave confirmed reqs = .ok (s1, reqs1) ∧
      s1.sendConfirmedInputsToSpectators now confirmed = .ok s2 ∧
      s2.sync.setLastConfirmedFrame confirmed s2.sparse = .ok sy3 ∧
      ({ s2 with sync := sy3 } : P2P).registerLocalInputs now = .ok s4 ∧
      s4.rollbackGate reqs1 = .ok (s', reqs') := by
  unfold advanceRollbackFrame at h
  obtain ⟨confirmed, h1, h⟩ := bind_ok h
  obtain ⟨⟨s1, reqs1⟩, h2, h⟩ := bind_ok h
  obtain ⟨s2, h3, h⟩ := bind_ok h
  obtain ⟨sy3, h4, h⟩ := bind_ok h
  obtain ⟨s4, h5, h⟩ := bind_ok h
  exact ⟨confirmed, s1, reqs1, s2, sy3, s4, h1, h2, h3, h4, h5, h⟩

theorem lockstepInput_ok {s : P2P} {f : Frame} {p : PlayerInput × Nat} {r : Input × InputStatus}
    (h : s.lockstepInput f p = .ok r) :
    r = (p.1.input, if p.1.frame == NULL_FRAME then InputStatus.disconnected else InputStatus.confirmed) := by
  unfold lockstepInput at h
  obtain ⟨_, h⟩ := ensure_bind_ok h
  exact (pure_ok h).symm

theorem lockstepAdvance_ok {s s' : P2P} {f conf : Frame} {reqs reqs' : List Request}
    (h : s.lockstepAdvance f conf reqs = .ok (s', reqs')) :
    (¬ conf ≥ f ∧ s' = s ∧ reqs' = reqs) ∨
    (conf ≥ f ∧ ∃ cis inputs, s.sync.confirmedInputs f s.localConnectStatus = .ok cis ∧
      cis.zipIdx.mapM (s.lockstepInput f) = .ok inputs ∧
      s' = { s with sync := s.sync.advanceFrame, pendingLocalInputs := [] } ∧
      reqs' = reqs ++ [.advance inputs]) := by
  unfold lockstepAdvance at h
  by_cases hge : conf ≥ f
  · rw [if_pos hge] at h
    obtain ⟨cis, hcis, h⟩ := bind_ok h
    obtain ⟨inputs, hmap, h⟩ := bind_ok h
    obtain ⟨h1, h2⟩ := pure_ok_pair h
    exact Or.inr ⟨hge, cis, inputs, hcis, hmap, h1.symm, h2.symm⟩
  · rw [if_neg hge] at h
    obtain ⟨h1, h2⟩ := pure_ok_pair h
    exact Or.inl ⟨hge, h1.symm, h2.symm⟩

theorem advanceLockstepFrame_ok {s s' : P2P} {now : Nat} {reqs reqs' : List Request}
    (h : s.advanceLockstepFrame now reqs = .ok (s', reqs')) :
    ∃ (s1 s2 s3 : P2P) (c1 c2 : Frame) (sy4 : SyncLayer), s.registerLocalInputs now = .ok s1 ∧
      s1.confirmedFrame = .ok c1 ∧ s1.lockstepAdvance s1.sync.currentFrame c1 reqs = .ok (s2, reqs') ∧
      s2.confirmedFrame = .ok c2 ∧
      s2.sendConfirmedInputsToSpectators now (min c2 (s2.sync.currentFrame - 1)) = .ok s3 ∧
      s3.sync.setLastConfirmedFrame (min c2 (s2.sync.currentFrame - 1)) s3.sparse = .ok sy4 ∧
      s' = { s3 with sync := sy4 } := by
  unfold advanceLockstepFrame at h
  obtain ⟨s1, hreg, h⟩ := bind_ok h
  obtain ⟨c1, hc1, h⟩ := bind_ok h
  obtain ⟨⟨s2, r2⟩, hstep, h⟩ := bind_ok h
  obtain ⟨c2, hc2, h⟩ := bind_ok h
  obtain ⟨s3, hspec, h⟩ := bind_ok h
  obtain ⟨sy4, hset, h⟩ := bind_ok h
  obtain ⟨rfl, rfl⟩ := pure_ok_pair h
  exact ⟨s1, s2, s3, c1, c2, sy4, hreg, hc1, hstep, hc2, hspec, hset, rfl⟩

theorem disconnectPlayer_remote_ok {s s' : P2P} {now handle addr : Nat} (hpt : s.playerType handle = some (.remote addr))
    (hcall : s.disconnectPlayer now handle = .ok (s', .ok ())) :
    (rget s.localConnectStatus handle).disconnected = false ∧
      s.disconnectPlayerAtFrame now handle (rget s.localConnectStatus handle).lastFrame = .ok s' := by
  unfold disconnectPlayer at hcall
  rw [hpt] at hcall
  cases hc : (rget s.localConnectStatus handle).disconnected with
  | true =>
    rw [hc] at hcall
    cases (pure_ok_pair hcall).2
  | false =>
    rw [hc] at hcall
    obtain ⟨s1, hdrop, hcall⟩ := bind_ok hcall
    obtain ⟨rfl, _⟩ := pure_ok_pair hcall
    exact ⟨rfl, hdrop⟩

theorem advanceFrameCore_ok {s s' : P2P} {now : Nat} {reqs' : List Request}
    (h : s.advanceFrameCore now = .ok (s', .ok reqs')) :
    ∃ (s1 s2 : P2P) (reqs0 : List Request) (sm s3 : P2P), s.desyncPhase now = .ok s1 ∧
      s1.firstSavePhase = .ok (s2, reqs0) ∧ s2.updatePlayerDisconnects now = .ok sm ∧
      sm.advanceByMode now reqs0 = .ok (s3, reqs') ∧ s3.checkWaitRecommendation = .ok s' := by
  unfold advanceFrameCore at h
  -- the two early returns carry an error, not `.ok reqs'`: `NotSynchronized` (not running), then
  -- `InvalidRequest` (a local player without a pending input)
  split at h
  · cases (pure_ok_pair h).2
  split at h
  · cases (pure_ok_pair h).2
  obtain ⟨s1, h1, h⟩ := bind_ok h
  obtain ⟨⟨s2, reqs0⟩, h2, h⟩ := bind_ok h
  obtain ⟨sm, h3, h⟩ := bind_ok h
  obtain ⟨⟨s3, reqs3⟩, h4, h⟩ := bind_ok h
  obtain ⟨s4, h5, h⟩ := bind_ok h
  obtain ⟨rfl, hr⟩ := pure_ok_pair h
  cases hr
  exact ⟨s1, s2, reqs0, sm, s3, h1, h2, h3, h4, h5⟩

theorem desyncPhase_ok {s s1 : P2P} {now : Nat} (h : s.desyncPhase now = .ok s1) :
    s1 = s ∨ ∃ sr, s.checkChecksumSendInterval now = .ok sr ∧ s1 = sr.compareLocalChecksumsAgainstPeers := by
  unfold desyncPhase at h
  split at h
  · obtain ⟨sr, hr, h⟩ := bind_ok h
    exact Or.inr ⟨sr, hr, (pure_ok h).symm⟩
  · exact Or.inl (pure_ok h).symm

/-- The saving disjunct keeps `current_frame = 0` only, not `max_prediction ≠ 0`: its users
(`call_is_path`, `call_path`) are about rollback mode and have `max_prediction ≠ 0` as a hypothesis. -/
theorem firstSavePhase_ok {s s2 : P2P} {reqs0 : List Request} (h : s.firstSavePhase = .ok (s2, reqs0)) :
    (s2 = s ∧ reqs0 = [] ∧ (s.sync.currentFrame == 0 && !(s.maxPrediction == 0)) = false) ∨
    (s.sync.currentFrame = 0 ∧ ∃ sy r, s.sync.saveCurrentState = .ok (sy, r) ∧
      s2 = { s with sync := sy } ∧ reqs0 = [r]) := by
  unfold firstSavePhase at h
  split at h
  next hc =>
    obtain ⟨⟨sy, r⟩, hsv, h⟩ := bind_ok h
    obtain ⟨rfl, rfl⟩ := pure_ok_pair h
    simp only [Bool.and_eq_true, beq_iff_eq] at hc
    exact Or.inr ⟨hc.1, sy, r, hsv, rfl, rfl⟩
  next hc =>
    obtain ⟨rfl, rfl⟩ := pure_ok_pair h
    exact Or.inl ⟨rfl, rfl, by simpa using hc⟩

theorem advanceByMode_rollback {s : P2P} (h : (s.maxPrediction == 0) = false) (now : Nat) (reqs : List Request) :
    s.advanceByMode now reqs = s.advanceRollbackFrame now reqs := by
  unfold advanceByMode
  rw [h]
  rfl

theorem advanceByMode_lockstep {s : P2P} (h : (s.maxPrediction == 0) = true) (now : Nat) (reqs : List Request) :
    s.advanceByMode now reqs = s.advanceLockstepFrame now reqs := by
  unfold advanceByMode
  rw [h]
  rfl

end P2P
end Ggrs
