/-
The shape of the request list of a rollback-mode `advance_frame` call: what the functions append on
runs that do not hit an assertion (no invariants needed). `tick_shape` covers both saving modes.
-/
import GgrsModel.Model.P2P
import GgrsModel.Proofs.Calls
import GgrsModel.Proofs.Frame
import GgrsModel.Proofs.Queue

namespace Ggrs

/-- What re-simulating `n` frames from frame `c` appends; `i` is the loop counter of `adjust_gamestate`. -/
def ResimShape (sparse : Bool) : Nat → Int → Nat → List Request → Prop
  | _, _, 0, L => L = []
  | i, c, n + 1, L => ∃ (mid : List Request) (ins : List (Input × InputStatus)) (L' : List Request),
      L = mid ++ [.advance ins] ++ L' ∧ (mid = [] ∨ mid = [.save c]) ∧
      (sparse = false → (i = 0 → mid = []) ∧ (i > 0 → mid = [.save c])) ∧
      ResimShape sparse (i + 1) (c + 1) n L'

/-- What `last_saved_frame` is after the list has been issued, starting from `l0`. -/
def lastSaveOf (l0 : Int) : List Request → Int
  | [] => l0
  | .save f :: rs => lastSaveOf f rs
  | _ :: rs => lastSaveOf l0 rs

theorem lastSaveOf_append (l0 : Int) (a b : List Request) : lastSaveOf l0 (a ++ b) = lastSaveOf (lastSaveOf l0 a) b := by
  induction a generalizing l0 with
  | nil => rfl
  | cons r rs ih => cases r <;> exact ih _

theorem syncInputs_fields (pr : Predictor) (sy sy' : SyncLayer) (st : List ConnStatus) (ins : List (Input × InputStatus))
    (h : sy.synchronizedInputs pr st = .ok (sy', ins)) :
    sy'.currentFrame = sy.currentFrame ∧ sy'.cells = sy.cells ∧ sy'.lastSavedFrame = sy.lastSavedFrame := by
  obtain ⟨_, _, rfl⟩ := SyncLayer.synchronizedInputs_ok h
  exact ⟨rfl, rfl, rfl⟩

theorem resimSave_shape (s : P2P) (mc : Frame) (i : Nat) (sy sy' : SyncLayer) (reqs reqs' : List Request)
    (h : s.resimSave mc i sy reqs = .ok (sy', reqs')) :
    ∃ mid, reqs' = reqs ++ mid ∧ (mid = [] ∨ mid = [.save sy.currentFrame]) ∧
      (s.sparse = false → (i = 0 → mid = []) ∧ (i > 0 → mid = [.save sy.currentFrame])) ∧
      sy'.currentFrame = sy.currentFrame ∧ sy'.cells = sy.cells ∧
      sy'.lastSavedFrame = lastSaveOf sy.lastSavedFrame mid := by
  rcases P2P.resimSave_ok h with ⟨hc, r, hs, rfl⟩ | ⟨hc, rfl, rfl⟩
  · obtain ⟨_, rfl, rfl⟩ := SyncLayer.saveCurrentState_ok hs
    refine ⟨_, rfl, Or.inr rfl, fun hf => ⟨fun h0 => ?_, fun _ => rfl⟩, rfl, rfl, rfl⟩
    rcases hc with ⟨hsp, _⟩ | ⟨_, hi⟩
    · rw [hf] at hsp; cases hsp
    · omega
  · exact ⟨[], (List.append_nil _).symm, Or.inl rfl, fun hf => ⟨fun _ => rfl, fun hi => absurd (Or.inr ⟨hf, hi⟩) hc⟩,
      rfl, rfl, rfl⟩

theorem resim_shape (s : P2P) (mc : Frame) : ∀ (n i : Nat) (sy sy' : SyncLayer) (reqs reqs' : List Request),
    P2P.adjustGamestate.loop s mc n i sy reqs = .ok (sy', reqs') →
    ∃ L, reqs' = reqs ++ L ∧ ResimShape s.sparse i sy.currentFrame n L ∧ sy'.cells = sy.cells ∧
      sy'.currentFrame = sy.currentFrame + n ∧ sy'.lastSavedFrame = lastSaveOf sy.lastSavedFrame L := by
  intro n
  induction n with
  | zero =>
    intro i sy sy' reqs reqs' h
    simp only [P2P.adjustGamestate.loop] at h
    cases h
    exact ⟨[], by simp, rfl, rfl, by simp, rfl⟩
  | succ k ih =>
    intro i sy sy' reqs reqs' h
    obtain ⟨sy1, ins, sy2, reqs2, hsim, hsave, h⟩ := P2P.adjustGamestate_loop_succ_ok h
    obtain ⟨hc1, hcl1, hls1⟩ := syncInputs_fields _ _ _ _ _ hsim
    obtain ⟨mid, rfl, hmid, hns, hc2, hcl2, hls2⟩ := resimSave_shape s mc i sy1 sy2 reqs reqs2 hsave
    obtain ⟨L', rfl, hsh', hcl', hcur', hls'⟩ := ih (i + 1) sy2.advanceFrame sy' _ reqs' h
    have hc : sy2.advanceFrame.currentFrame = sy.currentFrame + 1 := by
      show sy2.currentFrame + 1 = _; rw [hc2, hc1]
    rw [hc] at hsh' hcur'
    rw [hc1] at hmid hns
    refine ⟨mid ++ [.advance ins] ++ L', by simp, ⟨mid, ins, L', rfl, hmid, hns, hsh'⟩, ?_, ?_, ?_⟩
    · rw [hcl']; exact hcl2.trans hcl1
    · rw [hcur']; push_cast; omega
    · rw [hls', lastSaveOf_append, lastSaveOf_append, ← hls1, ← hls2]; rfl

def KeepCells (s s' : P2P) : Prop :=
  s'.sync.cells = s.sync.cells ∧ s'.sync.currentFrame = s.sync.currentFrame ∧ s'.sparse = s.sparse ∧
  s'.maxPrediction = s.maxPrediction

theorem KeepCells.trans {a b c : P2P} (h1 : KeepCells a b) (h2 : KeepCells b c) : KeepCells a c :=
  ⟨h2.1.trans h1.1, h2.2.1.trans h1.2.1, h2.2.2.1.trans h1.2.2.1, h2.2.2.2.trans h1.2.2.2⟩

/-- A rollback block as `adjust_gamestate` appends it. -/
def Rollback (sparse : Bool) (cells : List Cell) (cur r : Frame) (B : List Request) : Prop :=
  ∃ L, B = [.load r] ++ L ∧ 0 ≤ r ∧ r < cur ∧ (rget cells (r.toNat % cells.length)).frame = r ∧
    ResimShape sparse 0 r (cur - r).toNat L

theorem adjust_shape (s s' : P2P) (fi mc : Frame) (reqs reqs' : List Request)
    (h : s.adjustGamestate fi mc reqs = .ok (s', reqs')) :
    ∃ r B, reqs' = reqs ++ B ∧ Rollback s.sparse s.sync.cells s.sync.currentFrame r B ∧
      (s.sparse = true → r = s.sync.lastSavedFrame) ∧
      s'.sync.lastSavedFrame = lastSaveOf s.sync.lastSavedFrame B ∧ KeepCells s s' := by
  obtain ⟨r, sy1, req, sy2, hr, _, hload, hloop, hback, rfl⟩ := P2P.adjustGamestate_ok h
  obtain ⟨h0, hlt, _, htag, rfl, rfl⟩ := SyncLayer.loadFrame_ok hload
  rw [frameIdx_of_nonneg _ h0] at htag
  obtain ⟨L, rfl, hsh, hcl, _, hls⟩ := resim_shape s mc _ 0 _ sy2 _ reqs' hloop
  have hls' : sy2.lastSavedFrame = lastSaveOf s.sync.lastSavedFrame ([.load r] ++ L) := hls
  exact ⟨r, [.load r] ++ L, by simp, ⟨L, rfl, h0, hlt, htag, hsh⟩, fun hsp => by rw [hr, if_pos hsp],
    hls', hcl, hback, rfl, rfl⟩

theorem rollbackIfNeeded_shape (s s' : P2P) (confirmed : Frame) (reqs reqs' : List Request)
    (h : s.rollbackIfNeeded confirmed reqs = .ok (s', reqs')) :
    KeepCells s s' ∧ ∃ B, reqs' = reqs ++ B ∧ s'.sync.lastSavedFrame = lastSaveOf s.sync.lastSavedFrame B ∧
      (B = [] ∨ ∃ r, Rollback s.sparse s.sync.cells s.sync.currentFrame r B ∧
        (s.sparse = true → r = s.sync.lastSavedFrame)) := by
  rcases P2P.rollbackIfNeeded_ok h with ⟨_, rfl, rfl⟩ | ⟨_, s1, hadj, rfl⟩
  · exact ⟨⟨rfl, rfl, rfl, rfl⟩, [], by simp, rfl, Or.inl rfl⟩
  · obtain ⟨r, B, hB, hrb, hr, hls, hk⟩ := adjust_shape s s1 _ confirmed reqs reqs' hadj
    exact ⟨hk, B, hB, hls, Or.inr ⟨r, hrb, hr⟩⟩

theorem saveAfterRollback_shape (s s' : P2P) (confirmed : Frame) (reqs reqs' : List Request)
    (h : s.saveAfterRollback confirmed reqs = .ok (s', reqs')) :
    KeepCells s s' ∧ ∃ B, reqs' = reqs ++ B ∧ s'.sync.lastSavedFrame = lastSaveOf s.sync.lastSavedFrame B ∧
      ((B = [.save s.sync.currentFrame] ∧ 0 ≤ s.sync.currentFrame) ∨
       (s.sparse = true ∧ (B = [] ∨ Rollback true s.sync.cells s.sync.currentFrame s.sync.lastSavedFrame B))) := by
  rcases P2P.saveAfterRollback_ok h with ⟨hsp, _, rfl, rfl⟩ | ⟨_, sy, r, hs, rfl, rfl⟩ | ⟨hsp, _, _, hadj⟩
  · exact ⟨⟨rfl, rfl, rfl, rfl⟩, [], by simp, rfl, Or.inr ⟨hsp, Or.inl rfl⟩⟩
  · obtain ⟨h0, rfl, rfl⟩ := SyncLayer.saveCurrentState_ok hs
    exact ⟨⟨rfl, rfl, rfl, rfl⟩, _, rfl, rfl, Or.inl ⟨rfl, h0⟩⟩
  · obtain ⟨r, B, hB, hrb, hr, hls, hk⟩ := adjust_shape s s' _ confirmed reqs reqs' hadj
    rw [hr hsp, hsp] at hrb
    exact ⟨hk, B, hB, hls, Or.inr ⟨hsp, Or.inr hrb⟩⟩

theorem rollbackGate_shape (s s' : P2P) (reqs reqs' : List Request) (h : s.rollbackGate reqs = .ok (s', reqs')) :
    s'.sync.cells = s.sync.cells ∧ s'.sparse = s.sparse ∧ s'.maxPrediction = s.maxPrediction ∧
    s'.sync.lastSavedFrame = s.sync.lastSavedFrame ∧
    ∃ G, reqs' = reqs ++ G ∧ ((G = [] ∧ s'.sync.currentFrame = s.sync.currentFrame) ∨
     (∃ ins, G = [.advance ins] ∧ s'.sync.currentFrame = s.sync.currentFrame + 1)) := by
  rcases P2P.rollbackGate_ok h with ⟨_, rfl, rfl⟩ | ⟨_, sy1, ins, hsim, rfl, rfl⟩
  · exact ⟨rfl, rfl, rfl, rfl, [], by simp, Or.inl ⟨rfl, rfl⟩⟩
  · obtain ⟨hc, hcl, hls⟩ := syncInputs_fields _ _ _ _ _ hsim
    exact ⟨hcl, rfl, rfl, hls, _, rfl, Or.inr ⟨ins, rfl, by show sy1.currentFrame + 1 = _; rw [hc]⟩⟩

theorem setLastConfirmed_fields (sy sy' : SyncLayer) (f : Frame) (sp : Bool)
    (h : sy.setLastConfirmedFrame f sp = .ok sy') :
    sy'.cells = sy.cells ∧ sy'.currentFrame = sy.currentFrame ∧ sy'.lastSavedFrame = sy.lastSavedFrame := by
  obtain ⟨_, _, _, rfl, _⟩ := SyncLayer.setLastConfirmedFrame_ok h
  exact ⟨rfl, rfl, rfl⟩

theorem setLastConfirmed_cells (sy sy' : SyncLayer) (f : Frame) (sp : Bool)
    (h : sy.setLastConfirmedFrame f sp = .ok sy') : sy'.cells = sy.cells ∧ sy'.currentFrame = sy.currentFrame :=
  ⟨(setLastConfirmed_fields sy sy' f sp h).1, (setLastConfirmed_fields sy sy' f sp h).2.1⟩

theorem registerOne_cells (s s' : P2P) (hd : Nat) (h : s.registerOne hd = .ok s') :
    KeepCells s s' ∧ s'.sync.lastSavedFrame = s.sync.lastSavedFrame := by
  obtain ⟨pi, sy, actual, _, hadd, hnull, hsome⟩ := P2P.registerOne_ok h
  obtain ⟨_, _, q, _, rfl⟩ := SyncLayer.addLocalInput_ok hadd
  by_cases ha : actual = NULL_FRAME
  · rw [hnull ha]
    exact ⟨⟨rfl, rfl, rfl, rfl⟩, rfl⟩
  · obtain ⟨s2, hbl, hout⟩ := hsome ha
    have hc1 := P2P.queueInitialBlanks_sameCore _ _ _ _ hbl
    have hc2 := P2P.queueOutgoing_sameCore _ _ _ _ hout
    rw [KeepCells, hc2.sync.trans hc1.sync]
    exact ⟨⟨rfl, rfl, hc2.sparse.trans hc1.sparse, hc2.maxPrediction.trans hc1.maxPrediction⟩, rfl⟩

theorem registerLocalInputs_fields (s s' : P2P) (now : Nat) (h : s.registerLocalInputs now = .ok s') :
    KeepCells s s' ∧ s'.sync.lastSavedFrame = s.sync.lastSavedFrame := by
  obtain ⟨s1, hfold, hsend⟩ := P2P.registerLocalInputs_ok h
  have hf : ∀ (l : List Nat) (a b : P2P), l.foldlM P2P.registerOne a = .ok b →
      KeepCells a b ∧ b.sync.lastSavedFrame = a.sync.lastSavedFrame := by
    intro l
    induction l with
    | nil => intro a b hh; cases pure_ok hh; exact ⟨⟨rfl, rfl, rfl, rfl⟩, rfl⟩
    | cons x xs ih =>
      intro a b hh
      simp only [List.foldlM_cons] at hh
      obtain ⟨a1, h1, hh⟩ := bind_ok hh
      exact ⟨(registerOne_cells a a1 x h1).1.trans (ih a1 b hh).1, (ih a1 b hh).2.trans (registerOne_cells a a1 x h1).2⟩
  have hc := P2P.sendReady_sameCore _ _ _ hsend
  obtain ⟨hk, hls⟩ := hf _ s s1 hfold
  exact ⟨hk.trans ⟨by rw [hc.sync], by rw [hc.sync], hc.sparse, hc.maxPrediction⟩, by rw [hc.sync]; exact hls⟩

theorem registerLocalInputs_cells (s s' : P2P) (now : Nat) (h : s.registerLocalInputs now = .ok s') : KeepCells s s' :=
  (registerLocalInputs_fields s s' now h).1

/-- The request list of a rollback-mode `advance_frame`, either saving mode: a rollback block `B1` (only
after a misprediction); a save of the current frame, or with sparse saving nothing or a second rollback
block from the then last saved frame (`B2`); at most one AdvanceFrame (`G`). -/
theorem tick_shape (s s' : P2P) (now : Nat) (reqs reqs' : List Request)
    (h : s.advanceRollbackFrame now reqs = .ok (s', reqs')) :
    ∃ (B1 B2 G : List Request), reqs' = reqs ++ B1 ++ B2 ++ G ∧
      (B1 = [] ∨ ∃ r, Rollback s.sparse s.sync.cells s.sync.currentFrame r B1 ∧
        (s.sparse = true → r = s.sync.lastSavedFrame)) ∧
      ((B2 = [.save s.sync.currentFrame] ∧ 0 ≤ s.sync.currentFrame) ∨
       (s.sparse = true ∧ (B2 = [] ∨
         Rollback true s.sync.cells s.sync.currentFrame (lastSaveOf s.sync.lastSavedFrame B1) B2))) ∧
      ((G = [] ∧ s'.sync.currentFrame = s.sync.currentFrame) ∨
       (∃ ins, G = [.advance ins] ∧ s'.sync.currentFrame = s.sync.currentFrame + 1)) ∧
      s'.sync.lastSavedFrame = lastSaveOf s.sync.lastSavedFrame (B1 ++ B2) ∧
      s'.sync.cells = s.sync.cells ∧ s'.sparse = s.sparse ∧ s'.maxPrediction = s.maxPrediction := by
  obtain ⟨confirmed, s1, reqs1, s2, sy3, s4, _, hrs, hspec, hset, hreg, hgate⟩ := P2P.advanceRollbackFrame_ok h
  obtain ⟨s0, reqs0, hrb, hsv⟩ := P2P.handleRollbackAndSave_ok hrs
  obtain ⟨hk0, B1, rfl, hls0, hb1⟩ := rollbackIfNeeded_shape s s0 confirmed reqs reqs0 hrb
  obtain ⟨hk1, B2, rfl, hls1, hb2⟩ := saveAfterRollback_shape s0 s1 confirmed _ reqs1 hsv
  have hc2 := P2P.sendConfirmed_sameCore _ _ _ _ hspec
  obtain ⟨hcl3, hcur3, hls3⟩ := setLastConfirmed_fields _ _ _ _ hset
  obtain ⟨hk4, hls4⟩ := registerLocalInputs_fields _ s4 now hreg
  obtain ⟨hclg, hspg, hmpg, hlsg, G, rfl, hg⟩ := rollbackGate_shape s4 s' _ reqs' hgate
  have hk3 : KeepCells s1 ({ s2 with sync := sy3 } : P2P) :=
    ⟨by show sy3.cells = _; rw [hcl3, hc2.sync], by show sy3.currentFrame = _; rw [hcur3, hc2.sync],
      hc2.sparse, hc2.maxPrediction⟩
  have hk : KeepCells s s4 := ((hk0.trans hk1).trans hk3).trans hk4
  rw [hk0.1, hk0.2.1, hk0.2.2.1, hls0] at hb2
  rw [hk.2.1] at hg
  refine ⟨B1, B2, G, rfl, hb1, hb2, hg, ?_, hclg.trans hk.1, hspg.trans hk.2.2.1, hmpg.trans hk.2.2.2⟩
  rw [hlsg, hls4]
  show sy3.lastSavedFrame = _
  rw [hls3, hc2.sync, hls1, hls0, lastSaveOf_append]

theorem tick_cells (s s' : P2P) (now : Nat) (reqs reqs' : List Request)
    (h : s.advanceRollbackFrame now reqs = .ok (s', reqs')) : s'.sync.cells = s.sync.cells := by
  obtain ⟨_, _, _, _, _, _, _, _, hcl, _⟩ := tick_shape s s' now reqs reqs' h
  exact hcl

/-- `tick_shape` without sparse saving: the save of the current frame is always there, and every
re-simulated frame but the loaded one is saved first. -/
theorem tick_shape_ns (s s' : P2P) (now : Nat) (reqs reqs' : List Request) (hns : s.sparse = false)
    (h : s.advanceRollbackFrame now reqs = .ok (s', reqs')) :
    ∃ (RB G : List Request), reqs' = reqs ++ RB ++ [.save s.sync.currentFrame] ++ G ∧ 0 ≤ s.sync.currentFrame ∧
      (RB = [] ∨ ∃ (r : Frame) (L : List Request), RB = [.load r] ++ L ∧ 0 ≤ r ∧ r < s.sync.currentFrame ∧
        (rget s.sync.cells (r.toNat % s.sync.cells.length)).frame = r ∧
        ResimShape false 0 r (s.sync.currentFrame - r).toNat L) ∧
      ((G = [] ∧ s'.sync.currentFrame = s.sync.currentFrame) ∨
       (∃ ins, G = [.advance ins] ∧ s'.sync.currentFrame = s.sync.currentFrame + 1)) ∧
      s'.sync.cells = s.sync.cells ∧ s'.sparse = s.sparse ∧ s'.maxPrediction = s.maxPrediction := by
  obtain ⟨B1, B2, G, hL, hb1, hb2, hg, _, hcl, hsp, hmp⟩ := tick_shape s s' now reqs reqs' h
  rw [hns] at hb1 hb2
  rcases hb2 with ⟨rfl, h0⟩ | ⟨hf, _⟩
  · refine ⟨B1, G, hL, h0, ?_, hg, hcl, hsp, hmp⟩
    rcases hb1 with he | ⟨r, ⟨L, hrb⟩, _⟩
    · exact Or.inl he
    · exact Or.inr ⟨r, L, hrb⟩
  · cases hf

end Ggrs
