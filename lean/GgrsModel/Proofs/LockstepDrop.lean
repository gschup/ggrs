/-
L-drop (lockstep): a lockstep session (prediction window 0) with players that drop. Nothing is ever
predicted, saved, loaded or re-simulated; every frame handed to the game carries, per player, the
real input with status Confirmed — or, for a player marked disconnected as of an earlier frame, the
blank input with status Disconnected. A lockstep session never runs beyond a connected player's
last frame, so a drop never needs a re-simulation (`disconnect_frame` stays NULL).
-/
import GgrsModel.Proofs.DropSpec
import GgrsModel.Proofs.Lockstep
import GgrsModel.Proofs.Glue

namespace Ggrs
open InputQueue

/-- With no re-simulation scheduled, pending disconnects are settled as they are. -/
theorem SessInvD_resolve (s : P2P) (gh : DGhost) (t0 : TLState) (reqs : List Request) (st0 : List ConnStatus)
    (h : SessInvD s gh t0 reqs st0) (hdf : s.disconnectFrame = NULL_FRAME)
    (hclean : ∀ p, p < s.sync.queues.length → (rget s.sync.queues p).firstIncorrectFrame = NULL_FRAME) :
    SessInvD s gh t0 reqs s.localConnectStatus := by
  have hnew : ∀ p, p < s.sync.queues.length → (rget st0 p).disconnected = false →
      (rget s.localConnectStatus p).disconnected = true → s.sync.currentFrame ≤ (rget st0 p).lastFrame + 1 := by
    intro p hp h0 h1
    rcases h.pend p hp h0 h1 with hx | ⟨hx, _⟩
    · exact hx
    · exact absurd hdf hx
  refine ⟨TInvD_marks s.pred s.sync st0 s.localConnectStatus gh t0 reqs h.tinv h.marks hnew, Marks.refl _,
    h.asked, ?_, h.status, h.remote, h.localAlive, ?_, h.dfok, fun p hp _ => hclean p hp, h.saved⟩
  · intro p _ h0 h1
    rw [h0] at h1; cases h1
  · intro p hp hg
    have := h.safe p hp hg
    exact ⟨this.1, this.2.1, fun q hq hc => this.2.2 q hq (h.marks.alive hc)⟩

/-- The row a lockstep session hands to the game at frame `f`. -/
def rowOfD (gh : DGhost) (st : List ConnStatus) (N f : Nat) : List (Input × InputStatus) :=
  (List.range N).map fun p =>
    if Skip (rget st p) (f : Int) then (0, .disconnected) else ((gh.specs p).vals.getD f 0, .confirmed)

theorem rowOfD_length (gh : DGhost) (st : List ConnStatus) (N f : Nat) : (rowOfD gh st N f).length = N := by
  simp [rowOfD]

theorem rowOfD_getD (gh : DGhost) (st : List ConnStatus) (N f p : Nat) (hp : p < N) :
    (rowOfD gh st N f).getD p default =
      if Skip (rget st p) (f : Int) then (0, .disconnected) else ((gh.specs p).vals.getD f 0, .confirmed) := by
  simp [rowOfD, List.getD_eq_getElem?_getD, hp]

theorem eq_rowOfD (gh : DGhost) (st : List ConnStatus) (N f : Nat) (l : List (Input × InputStatus)) (hlen : l.length = N)
    (h : ∀ p, p < N → rget l p =
      if Skip (rget st p) (f : Int) then (0, .disconnected) else ((gh.specs p).vals.getD f 0, .confirmed)) :
    l = rowOfD gh st N f :=
  eq_map_range N _ l hlen h

/-- A lockstep session with dropped players: nothing pending, no re-simulation scheduled, and every
simulated row labelled Disconnected exactly for the players marked as of an earlier frame. -/
structure LkInvD (s : P2P) (gh : DGhost) (t : TLState) : Prop where
  sess : SessInvD s gh t [] s.localConnectStatus
  idle : AllIdle s.sync.queues
  df : s.disconnectFrame = NULL_FRAME
  full : ∀ p, p < s.sync.queues.length → (rget s.localConnectStatus p).disconnected = false →
    s.sync.currentFrame ≤ ((gh.specs p).vals.length : Int)
  rows : ∀ f : Nat, (f : Int) < s.sync.currentFrame → (t.R f).length = s.sync.queues.length ∧
    ∀ p, p < s.sync.queues.length → ((t.R f).getD p default).2 =
      if Skip (rget s.localConnectStatus p) (f : Int) then InputStatus.disconnected else InputStatus.confirmed

theorem skip_congr {a b : ConnStatus} (cur : Int) (hd : a.disconnected = b.disconnected)
    (hl : b.disconnected = true → a = b) : Skip a cur ↔ Skip b cur := by
  by_cases h : b.disconnected = true
  · rw [hl h]
  · exact ⟨fun hx => absurd (hd.symm.trans hx.1) h, fun hx => absurd hx.1 h⟩

theorem ite_iff_congr {α} {p q : Prop} [Decidable p] [Decidable q] (h : p ↔ q) (a b : α) :
    (if p then a else b) = if q then a else b := by
  by_cases hq : q
  · rw [if_pos hq, if_pos (h.mpr hq)]
  · rw [if_neg hq, if_neg fun hp => hq (h.mp hp)]

theorem rowOfD_congr {gh gh' : DGhost} {st st' : List ConnStatus} (N f : Nat) (hs : gh'.specs = gh.specs)
    (hsk : ∀ p, Skip (rget st' p) (f : Int) ↔ Skip (rget st p) (f : Int)) : rowOfD gh' st' N f = rowOfD gh st N f := by
  unfold rowOfD
  apply List.map_congr_left
  intro p _
  rw [hs]
  exact ite_iff_congr (hsk p) _ _

theorem SessInvD.cur_eq {s : P2P} {gh : DGhost} {t : TLState} {st0 : List ConnStatus} (h : SessInvD s gh t [] st0) :
    t.cur = s.sync.currentFrame := h.tinv.exec

theorem SessInvD.col {s : P2P} {gh : DGhost} {t : TLState} {st0 : List ConnStatus} (h : SessInvD s gh t [] st0)
    {p : Nat} (hp : p < s.sync.queues.length) (f : Nat) : gh.T p f = ((t.R f).getD p default).1 := h.tinv.rows p hp f

theorem SessInvD.deadRow {s : P2P} {gh : DGhost} {t : TLState} {st0 : List ConnStatus} (h : SessInvD s gh t [] st0)
    {p f : Nat} (hp : p < s.sync.queues.length) (hsk : Skip (rget st0 p) (f : Int)) (hf : (f : Int) < s.sync.currentFrame) :
    (t.R f).getD p default = (0, .disconnected) := h.tinv.deadRows p hp hsk.1 f hsk.2 hf

theorem LkInvD.held {s : P2P} {gh : DGhost} {t : TLState} (h : LkInvD s gh t) {p f : Nat}
    (hp : p < s.sync.queues.length) (hf : (f : Int) < s.sync.currentFrame)
    (hns : ¬ Skip (rget s.localConnectStatus p) (f : Int)) : f < (gh.specs p).vals.length := by
  by_cases hd : (rget s.localConnectStatus p).disconnected = true
  · exact h.sess.dead_held hp hd hns
  · have := h.full p hp (Bool.eq_false_iff.mpr hd)
    omega

theorem LkInvD.frame {s s' : P2P} {gh gh' : DGhost} {t : TLState} (h : LkInvD s gh t)
    (hs : SessInvD s' gh' t [] s'.localConnectStatus) (hi : AllIdle s'.sync.queues)
    (hdf : s'.disconnectFrame = NULL_FRAME) (hcur : s'.sync.currentFrame = s.sync.currentFrame)
    (hnq : s'.sync.queues.length = s.sync.queues.length)
    (hgrow : ∀ p, (gh.specs p).vals.length ≤ (gh'.specs p).vals.length)
    (hconn : ∀ p, (rget s'.localConnectStatus p).disconnected = false →
      (rget s.localConnectStatus p).disconnected = false)
    (hskip : ∀ p (f : Nat), p < s.sync.queues.length → (f : Int) < s.sync.currentFrame →
      (Skip (rget s'.localConnectStatus p) (f : Int) ↔ Skip (rget s.localConnectStatus p) (f : Int))) :
    LkInvD s' gh' t := by
  refine ⟨hs, hi, hdf, ?_, ?_⟩
  · intro p hp hc
    rw [hcur]
    have := h.full p (by rw [← hnq]; exact hp) (hconn p hc)
    have := hgrow p
    omega
  · intro f hf
    rw [hcur] at hf
    rw [hnq]
    obtain ⟨a, b⟩ := h.rows f hf
    exact ⟨a, fun p hp => (b p hp).trans (ite_iff_congr (hskip p f hp hf).symm _ _)⟩

theorem LkInvD.keep {s s' : P2P} {gh gh' : DGhost} {t : TLState} {st0 : List ConnStatus} (h : LkInvD s gh t)
    (hs : SessInvD s' gh' t [] st0) (hi : AllIdle s'.sync.queues)
    (hdf : s'.disconnectFrame = s.disconnectFrame) (hcur : s'.sync.currentFrame = s.sync.currentFrame)
    (hnq : s'.sync.queues.length = s.sync.queues.length)
    (hgrow : ∀ p, (gh.specs p).vals.length ≤ (gh'.specs p).vals.length)
    (hflags : ∀ p, (rget s'.localConnectStatus p).disconnected = (rget s.localConnectStatus p).disconnected)
    (hdead : ∀ p, (rget s.localConnectStatus p).disconnected = true →
      rget s'.localConnectStatus p = rget s.localConnectStatus p) : LkInvD s' gh' t :=
  have hdf' : s'.disconnectFrame = NULL_FRAME := hdf.trans h.df
  h.frame (SessInvD_resolve s' gh' t [] st0 hs hdf' (fun p hp => (hi p hp).2.1)) hi hdf' hcur hnq hgrow
    (fun p hc => (hflags p).symm.trans hc) (fun p f _ _ => skip_congr f (hflags p) (hdead p))

theorem LkInvD.pending {s : P2P} {gh : DGhost} {t : TLState} (h : LkInvD s gh t) (l : List (Nat × PlayerInput)) :
    LkInvD { s with pendingLocalInputs := l } gh t :=
  ⟨SessInvD_pending s gh t [] _ l h.sess, h.idle, h.df, h.full, h.rows⟩

theorem lockstepRowD (s : P2P) (gh : DGhost) (c : Nat) (cis : List PlayerInput) (inputs : List (Input × InputStatus))
    (hN : s.localConnectStatus.length = s.sync.queues.length)
    (hring : ∀ p, p < s.sync.queues.length → Refines (rget s.sync.queues p).strip (gh.specs p))
    (hheld : ∀ p, p < s.sync.queues.length → ¬ Skip (rget s.localConnectStatus p) (c : Int) →
      c < (gh.specs p).vals.length)
    (hcis : s.sync.confirmedInputs (c : Int) s.localConnectStatus = .ok cis)
    (hmap : cis.zipIdx.mapM (s.lockstepInput (c : Int)) = .ok inputs) :
    inputs = rowOfD gh s.localConnectStatus s.sync.queues.length c := by
  obtain ⟨hlen, hpt⟩ := SyncLayer.confirmedInputs_ok hcis
  obtain ⟨hil, hip⟩ := mapM_ok _ _ _ hmap
  have hzl : cis.zipIdx.length = s.sync.queues.length := by rw [List.length_zipIdx, hlen, hN]
  refine eq_rowOfD gh _ _ c inputs (hil.trans hzl) fun p hp => ?_
  have hk := hip p (by rw [hzl]; exact hp)
  rw [rget_zipIdx _ _ (by rw [hlen, hN]; exact hp)] at hk
  rw [P2P.lockstepInput_ok hk]
  obtain ⟨ha, hb⟩ := hpt p (by rw [hN]; exact hp)
  by_cases hsk : Skip (rget s.localConnectStatus p) (c : Int)
  · rw [if_pos hsk, ha hsk]
    rfl
  · rw [if_neg hsk, confirmedInput_ok _ _ (hring p hp) c (hheld p hp hsk) _ (hb hsk).2]
    have hne : ((c : Int) == NULL_FRAME) = false := by
      simp only [beq_eq_false_iff_ne, ne_eq, NULL_FRAME]; omega
    simp only [hne, Bool.false_eq_true, if_false]

theorem SessInvD_consume (s : P2P) (gh : DGhost) (t : TLState) (c : Nat)
    (h : SessInvD s gh t [] s.localConnectStatus) (hi : AllIdle s.sync.queues) (hc : s.sync.currentFrame = (c : Int))
    (hheld : ∀ p, p < s.sync.queues.length → ¬ Skip (rget s.localConnectStatus p) (c : Int) →
      c < (gh.specs p).vals.length) :
    ∃ gh' : DGhost, gh'.specs = gh.specs ∧ gh'.gone = gh.gone ∧
      SessInvD { s with sync := s.sync.advanceFrame, pendingLocalInputs := [] } gh' t
        [.advance (rowOfD gh s.localConnectStatus s.sync.queues.length c)] s.localConnectStatus := by
  refine ⟨{ gh with T := fun p => upd (gh.T p) c ((rowOfD gh s.localConnectStatus s.sync.queues.length c).getD p default).1 },
    rfl, rfl, ?_⟩
  have hexec := fun ins => execReqs_advance (h.cur_eq.trans hc) ins
  refine ⟨⟨⟨by show 0 ≤ s.sync.currentFrame + 1; omega, h.tinv.sync.nq, ?_, ?_⟩, ?_, ?_, ?_⟩, Marks.refl _, ?_,
    fun p _ h0 h1 => absurd (h0.symm.trans h1) Bool.false_ne_true, h.status, h.remote, h.localAlive, h.safe, h.dfok,
    h.deadClean, h.saved⟩
  · -- a given-up queue lies behind frame `c`: its column is not touched
    intro p (hp : p < s.sync.queues.length) hg
    have hgo := h.tinv.sync.gone p hp hg
    have hlt := hgo.lt
    rw [hc] at hlt
    refine ⟨hgo.dead, ?_, hgo.clean, fun f hf hlen => ?_, hgo.ring⟩
    · show (rget s.localConnectStatus p).lastFrame < s.sync.currentFrame + 1
      omega
    · show upd (gh.T p) c _ f = _
      rw [upd_ne _ _ _ _ (by omega)]
      exact hgo.right f hf hlen
  · intro p (hp : p < s.sync.queues.length) hng
    show QI s.pred (rget s.sync.queues p) (gh.specs p) (gh.hists p) (upd (gh.T p) c _)
      (pcur (rget s.localConnectStatus p) (s.sync.currentFrame + 1))
    have hq := h.tinv.sync.live p hp hng
    rw [hc] at hq ⊢
    by_cases hsk : Skip (rget s.localConnectStatus p) (c : Int)
    · -- a skipped player's queue stays at the frame after its last one
      rw [pcur_skip_succ _ _ hsk]
      refine QI_congr_T s.pred _ _ _ _ _ _ hq (fun f hf => ?_)
      rw [pcur_skip _ _ hsk] at hf
      have := hsk.2
      rw [upd_ne _ _ _ _ (by omega)]
    · rw [pcur_noskip_succ _ _ hsk, rowOfD_getD _ _ _ _ _ hp, if_neg hsk]
      rw [pcur_noskip _ _ hsk] at hq
      exact QI_consume s.pred _ _ _ _ c hq (hi p hp) (hheld p hp hsk)
  · rw [hexec]
    exact (congrArg (· + 1) hc).symm
  · intro p (hp : p < s.sync.queues.length) f
    rw [hexec]
    exact col_upd (h.col hp) c rfl f
  · intro p (hp : p < s.sync.queues.length) hd f hlf hfc
    rw [hexec]
    show (upd t.R c _ f).getD p default = (0, .disconnected)
    by_cases hfe : f = c
    · rw [hfe] at hlf ⊢
      rw [upd_self, rowOfD_getD _ _ _ _ _ hp, if_pos ⟨hd, hlf⟩]
    · rw [upd_ne _ _ _ _ hfe]
      have hfc' : (f : Int) < s.sync.currentFrame + 1 := hfc
      exact h.deadRow hp ⟨hd, hlf⟩ (by omega)
  · intro p (hp : p < s.sync.queues.length) hcn _
    have := hheld p hp (fun hsk => Bool.false_ne_true (hcn.symm.trans hsk.1))
    right
    show s.sync.currentFrame + 1 ≤ (rget s.sync.queues p).lastAddedFrame + 1
    rw [lastAdded_of_QI (h.liveQI hp hcn).2, hc]
    omega

theorem lockstepAdvance_specD (s s' : P2P) (gh : DGhost) (t : TLState) (conf : Frame) (reqs' : List Request)
    (h : LkInvD s gh t) (hconf : s.confirmedFrame = .ok conf)
    (hstep : s.lockstepAdvance s.sync.currentFrame conf [] = .ok (s', reqs')) :
    (reqs' = [] ∧ s' = s) ∨
    ∃ (c : Nat) (gh' : DGhost), s.sync.currentFrame = (c : Int) ∧
      reqs' = [.advance (rowOfD gh s.localConnectStatus s.sync.queues.length c)] ∧
      gh'.specs = gh.specs ∧ gh'.gone = gh.gone ∧ SessInvD s' gh' t reqs' s'.localConnectStatus ∧
      AllIdle s'.sync.queues ∧
      s'.sync.currentFrame = s.sync.currentFrame + 1 ∧ s'.sync.queues = s.sync.queues ∧
      s'.localConnectStatus = s.localConnectStatus ∧ s'.disconnectFrame = s.disconnectFrame ∧
      s'.handles = s.handles ∧ s'.pred = s.pred ∧
      (∀ p, p < s.sync.queues.length → (rget s.localConnectStatus p).disconnected = false →
        (c : Int) + 1 ≤ ((gh.specs p).vals.length : Int)) := by
  rcases P2P.lockstepAdvance_ok hstep with ⟨_, hs', hr'⟩ | ⟨hge, cis, inputs, hcis, hmap, hs', hr'⟩
  · exact Or.inl ⟨hr', hs'⟩
  · have hsi := h.sess
    obtain ⟨c, hc⟩ : ∃ c : Nat, s.sync.currentFrame = (c : Int) :=
      ⟨s.sync.currentFrame.toNat, by have := hsi.tinv.sync.cur; omega⟩
    rw [hc] at hcis hmap hge
    have hheld : ∀ p, p < s.sync.queues.length → ¬ Skip (rget s.localConnectStatus p) (c : Int) →
        c < (gh.specs p).vals.length := fun p hp =>
      hsi.held hp fun hcn => Int.le_trans hge (confirmedFrame_leD s conf hconf p (hsi.nst ▸ hp) hcn)
    have hrow := lockstepRowD s gh c cis inputs hsi.nst (fun p hp => hsi.tinv.sync.ring hp) hheld hcis hmap
    subst hs' hr' hrow
    obtain ⟨gh', hsp, hgo, hs'⟩ := SessInvD_consume s gh t c hsi h.idle hc hheld
    refine Or.inr ⟨c, gh', hc, rfl, hsp, hgo, hs', h.idle, rfl, rfl, rfl, rfl, rfl, rfl, fun p hp hcn => ?_⟩
    have := hheld p hp (fun hsk => Bool.false_ne_true (hcn.symm.trans hsk.1))
    omega

theorem lockstepAdvance_lkD (s s' : P2P) (gh : DGhost) (t : TLState) (conf : Frame) (reqs' : List Request)
    (h : LkInvD s gh t) (hconf : s.confirmedFrame = .ok conf)
    (hstep : s.lockstepAdvance s.sync.currentFrame conf [] = .ok (s', reqs')) :
    ∃ gh', LkInvD s' gh' (execReqs t reqs') ∧ gh'.specs = gh.specs ∧
      ((reqs' = [] ∧ s'.sync.currentFrame = s.sync.currentFrame) ∨
       (∃ c : Nat, s.sync.currentFrame = (c : Int) ∧
         reqs' = [.advance (rowOfD gh s.localConnectStatus s.sync.queues.length c)] ∧
         s'.sync.currentFrame = s.sync.currentFrame + 1)) ∧
      s'.sync.queues = s.sync.queues ∧ s'.localConnectStatus = s.localConnectStatus ∧ s'.handles = s.handles := by
  rcases lockstepAdvance_specD s s' gh t conf reqs' h hconf hstep with ⟨hre, hse⟩ |
      ⟨c, gh2, hcc, hre, hsp2, _, hs2, hi2, hcur2, hq2, hst2, hdf2, hh2, _, hfull2⟩
  · subst hse hre
    exact ⟨gh, h, rfl, Or.inl ⟨rfl, rfl⟩, rfl, rfl, rfl⟩
  · refine ⟨gh2, ⟨SessInvD_rebase s' gh2 t reqs' _ hs2, hi2, hdf2.trans h.df, ?_, ?_⟩, hsp2,
      Or.inr ⟨c, hcc, hre, hcur2⟩, hq2, hst2, hh2⟩
    · intro p hp hc
      rw [hcur2, hcc, hsp2]
      exact hfull2 p (by rw [← hq2]; exact hp) (by rw [← hst2]; exact hc)
    · intro f hf
      rw [hq2, hst2]
      rw [hcur2, hcc] at hf
      have hR : (execReqs t reqs').R = upd t.R c (rowOfD gh s.localConnectStatus s.sync.queues.length c) := by
        rw [hre, execReqs_advance (h.sess.cur_eq.trans hcc)]
      rw [hR]
      by_cases hfc : f = c
      · rw [hfc, upd_self]
        refine ⟨rowOfD_length _ _ _ _, fun p hp => ?_⟩
        rw [rowOfD_getD _ _ _ _ _ hp]
        exact apply_ite Prod.snd _ _ _
      · rw [upd_ne _ _ _ _ hfc]
        exact h.rows f (by rw [hcc]; omega)

theorem bookkeeping_le {s : P2P} {conf : Frame} (hconf : s.confirmedFrame = .ok conf)
    (hN : s.localConnectStatus.length = s.sync.queues.length) (x : Frame) (p : Nat) (hp : p < s.sync.queues.length)
    (hc : (rget s.localConnectStatus p).disconnected = false) : min conf x ≤ (rget s.localConnectStatus p).lastFrame :=
  Int.le_trans (Int.min_le_left _ _) (confirmedFrame_leD s conf hconf p (by rw [hN]; exact hp) hc)

theorem lockstepTail_specD (s s3 : P2P) (sy4 : SyncLayer) (gh : DGhost) (t : TLState) (now : Nat) (conf : Frame)
    (h : LkInvD s gh t) (hconf : s.confirmedFrame = .ok conf)
    (hspec : s.sendConfirmedInputsToSpectators now (min conf (s.sync.currentFrame - 1)) = .ok s3)
    (hset : s3.sync.setLastConfirmedFrame (min conf (s.sync.currentFrame - 1)) s3.sparse = .ok sy4) :
    ∃ gh', LkInvD { s3 with sync := sy4 } gh' t ∧ gh'.specs = gh.specs ∧ sy4.currentFrame = s.sync.currentFrame ∧
      sy4.queues.length = s.sync.queues.length ∧ s3.localConnectStatus = s.localConnectStatus ∧
      s3.handles = s.handles ∧ s3.pred = s.pred := by
  have hc3 := P2P.sendConfirmed_sameCore _ _ _ _ hspec
  have hs3 : SessInvD s3 gh t [] s3.localConnectStatus := by
    rw [hc3.statuses]
    exact SessInvD_congr s s3 gh t [] _ h.sess hc3
  have hclean3 : ∀ p, p < s3.sync.queues.length → (rget s3.sync.queues p).firstIncorrectFrame = NULL_FRAME := by
    rw [hc3.sync]; intro p hp; exact (h.idle p hp).2.1
  obtain ⟨gh4, hs4, hsp4, _, _, hcur4, hql4, _⟩ := setLastConfirmed_specD s3 sy4 gh t [] _ hs3 hclean3
    (hc3.disconnectFrame.trans h.df) (timelineRightD_of_clean s3.pred _ _ gh hs3.tinv.sync hclean3)
    (by rw [hc3.statuses, hc3.sync]; exact bookkeeping_le hconf h.sess.tinv.sync.nq _) hset
  have hcur : sy4.currentFrame = s.sync.currentFrame := by rw [hcur4, hc3.sync]
  have hnq : sy4.queues.length = s.sync.queues.length := by rw [hql4, hc3.sync]
  have hst : ∀ p, rget s3.localConnectStatus p = rget s.localConnectStatus p := fun p => by rw [hc3.statuses]
  exact ⟨gh4, h.frame hs4 (setLastConfirmed_idle _ _ _ _ (by rw [hc3.sync]; exact h.idle) hset)
      (hc3.disconnectFrame.trans h.df) hcur hnq (fun p => by rw [hsp4]; exact Nat.le_refl _)
      (fun p hc => (congrArg _ (hst p)).symm.trans hc) (fun p f _ _ => by rw [hst p]),
    hsp4, hcur, hnq, hc3.statuses, hc3.handles, hc3.pred⟩

/-- One lockstep `advance_frame` with dropped players: the request list is empty or a single
AdvanceFrame carrying the row `rowOfD`; no SaveGameState, no LoadGameState, ever. -/
theorem lockstepTick_specD (s s' : P2P) (gh : DGhost) (t : TLState) (now : Nat) (reqs' : List Request)
    (h : LkInvD s gh t) (hadv : s.advanceLockstepFrame now [] = .ok (s', reqs')) :
    ∃ gh', LkInvD s' gh' (execReqs t reqs') ∧
      ((reqs' = [] ∧ s'.sync.currentFrame = s.sync.currentFrame) ∨
       (∃ c : Nat, s.sync.currentFrame = (c : Int) ∧
         reqs' = [.advance (rowOfD gh' s.localConnectStatus s.sync.queues.length c)] ∧
         s'.sync.currentFrame = s.sync.currentFrame + 1)) ∧
      s'.sync.queues.length = s.sync.queues.length ∧ s'.handles = s.handles ∧
      (∀ p, (rget s'.localConnectStatus p).disconnected = (rget s.localConnectStatus p).disconnected) ∧
      (∀ p, (rget s.localConnectStatus p).disconnected = true → rget s'.localConnectStatus p = rget s.localConnectStatus p) := by
  obtain ⟨s1, s2, s3, c1, c2, sy4, hreg, hc1, hstep, hc2, hspec, hset, hs'⟩ := P2P.advanceLockstepFrame_ok hadv
  obtain ⟨gh1, hs1, hk⟩ := registerLocalInputs_specD s s1 gh t [] now h.sess hreg
  have hdead1 := fun p hd => (hk.deadQ p hd).2
  have hl1 : LkInvD s1 gh1 t :=
    h.keep hs1 (registerLocalInputs_idle s s1 now h.idle hreg) hk.df hk.cur hk.nq hk.grows hk.flags hdead1
  obtain ⟨gh2, hl2, hsp2, hcase, hq2, hst2, hh2⟩ := lockstepAdvance_lkD s1 s2 gh1 t c1 reqs' hl1 hc1 hstep
  obtain ⟨gh4, hl4, hsp4, hcur4, hql4, hst4, hh4, _⟩ :=
    lockstepTail_specD s2 s3 sy4 gh2 (execReqs t reqs') now c2 hl2 hc2 hspec hset
  subst hs'
  refine ⟨gh4, hl4, ?_, by show sy4.queues.length = _; rw [hql4, hq2, hk.nq],
    by show s3.handles = _; rw [hh4, hh2, hk.handles], ?_, ?_⟩
  · rcases hcase with ⟨hre, hcur2⟩ | ⟨c, hcc, hre, hcur2⟩
    · exact Or.inl ⟨hre, by show sy4.currentFrame = _; rw [hcur4, hcur2, hk.cur]⟩
    · refine Or.inr ⟨c, by rw [← hk.cur]; exact hcc, ?_, by show sy4.currentFrame = _; rw [hcur4, hcur2, hk.cur]⟩
      rw [hre, hk.nq, rowOfD_congr _ c (hsp4.trans hsp2) (fun p => (skip_congr c (hk.flags p) (hdead1 p)).symm)]
  · intro p; show (rget s3.localConnectStatus p).disconnected = _; rw [hst4, hst2]; exact hk.flags p
  · intro p hd; show rget s3.localConnectStatus p = _; rw [hst4, hst2]; exact hdead1 p hd

/-- What a drop (any number of `disconnect_player_at_frame` calls for the players of one endpoint,
each with the common last frame `L`) leaves of the lockstep invariant. -/
theorem drop_lkD (s s' : P2P) (gh : DGhost) (t : TLState) (eph : List Nat) (L : Frame) (h : LkInvD s gh t)
    (hinv : SessInvD s' gh t [] s.localConnectStatus) (hsync : s'.sync = s.sync)
    (hdf : s.sync.currentFrame ≤ L + 1 → s'.disconnectFrame = s.disconnectFrame)
    (hmono : ∀ g, (rget s.localConnectStatus g).disconnected = true → (rget s'.localConnectStatus g).disconnected = true)
    (hlast : ∀ g, (rget s'.localConnectStatus g).lastFrame = (rget s.localConnectStatus g).lastFrame)
    (hoth : ∀ g, g ∉ eph → rget s'.localConnectStatus g = rget s.localConnectStatus g)
    (hrem : ∀ g, g ∈ eph → g ∉ s.localPlayerHandles)
    (hsame : ∀ g, g ∈ eph → g < s.sync.queues.length → (rget s.localConnectStatus g).disconnected = false →
      (rget s.localConnectStatus g).lastFrame = L)
    (hone : ∃ g, g ∈ eph ∧ g < s.sync.queues.length ∧ (rget s.localConnectStatus g).disconnected = false) :
    LkInvD s' gh t := by
  -- the session has not run beyond the dropped players' last frame
  have hcurL : s.sync.currentFrame ≤ L + 1 := by
    obtain ⟨g, hg, hgn, hgc⟩ := hone
    have hf := h.full g hgn hgc
    obtain ⟨_, hlu, hlen⟩ := h.sess.remote g hgn (hrem g hg)
    rw [hsame g hg hgn hgc] at hlu
    omega
  have hdf' : s'.disconnectFrame = NULL_FRAME := (hdf hcurL).trans h.df
  have hidle : AllIdle s'.sync.queues := by rw [hsync]; exact h.idle
  refine h.frame (SessInvD_resolve s' gh t [] _ hinv hdf' (fun p hp => (hidle p hp).2.1)) hidle hdf' (by rw [hsync])
    (by rw [hsync]) (fun _ => Nat.le_refl _)
    (fun p hc => Bool.eq_false_iff.mpr fun hx => Bool.false_ne_true (hc.symm.trans (hmono p hx))) ?_
  intro p f hp hf
  by_cases hin : p ∈ eph
  · by_cases hd : (rget s.localConnectStatus p).disconnected = true
    · unfold Skip
      rw [hlast, hd, hmono p hd]
    · -- newly marked (or still connected): not skipped at any simulated frame, before or after
      have hL := hsame p hin hp (Bool.eq_false_iff.mpr hd)
      refine ⟨fun hx => ?_, fun hx => absurd hx.1 hd⟩
      have := hx.2
      rw [hlast, hL] at this
      omega
  · rw [hoth p hin]

/-- A lockstep session and the game it drives, with drops: the locally detected ones (`dropApi`,
`dropEvent`); this world has no `adopt` step. -/
inductive LkXStep : (P2P × TLState) → (P2P × TLState) → Prop
  | remoteInput (s s' : P2P) (t : TLState) (now : Nat) (inp : PlayerInput) (player : Nat) (handles : List Nat)
      (addr : Nat) : player ∉ s.localPlayerHandles → 0 ≤ inp.frame →
      s.handleEventCore now (.input inp player) handles addr = .ok s' → LkXStep (s, t) (s', t)
  | tick (s s' : P2P) (t : TLState) (now : Nat) (reqs' : List Request) :
      s.advanceLockstepFrame now [] = .ok (s', reqs') → LkXStep (s, t) (s', execReqs t reqs')
  | dropApi (s s' : P2P) (t : TLState) (now handle addr : Nat) (ep : Endpoint) :
      s.playerType handle = some (.remote addr) → P2P.findEp s.remotes addr = some ep → handle ∈ ep.handles →
      (∀ g, g ∈ ep.handles → g ∉ s.localPlayerHandles) → handle < s.sync.queues.length →
      -1 ≤ (rget s.localConnectStatus handle).lastFrame →
      (∀ g, g ∈ ep.handles → g < s.sync.queues.length → (rget s.localConnectStatus g).disconnected = false →
        (rget s.localConnectStatus g).lastFrame = (rget s.localConnectStatus handle).lastFrame) →
      s.disconnectPlayer now handle = .ok (s', .ok ()) → LkXStep (s, t) (s', t)
  | dropEvent (s s' : P2P) (t : TLState) (now addr : Nat) (hs : List Nat) (ep : Endpoint) (L : Frame) :
      hs ≠ [] → (∀ h, h ∈ hs → s.playerType h = some (.remote addr)) → P2P.findEp s.remotes addr = some ep →
      (∀ h, h ∈ hs → h ∈ ep.handles) → (∀ g, g ∈ ep.handles → g ∉ s.localPlayerHandles) →
      (∀ h, h ∈ hs → h < s.numPlayers ∧ h < s.sync.queues.length) →
      (∀ h, h ∈ hs → (rget s.localConnectStatus h).disconnected = false) → -1 ≤ L →
      (∀ g, g ∈ ep.handles → g < s.sync.queues.length → (rget s.localConnectStatus g).disconnected = false →
        (rget s.localConnectStatus g).lastFrame = L) →
      s.handleEventCore now .disconnected hs addr = .ok s' → LkXStep (s, t) (s', t)
  | localInput (s : P2P) (t : TLState) (handle : Nat) (input : Input) :
      LkXStep (s, t) ((s.addLocalInput handle input).1, t)

inductive LkXStar : (P2P × TLState) → (P2P × TLState) → Prop
  | refl (x : P2P × TLState) : LkXStar x x
  | step (x y z : P2P × TLState) : LkXStar x y → LkXStep y z → LkXStar x z

/-- Every step is a lockstep call, or keeps the invariant and leaves alone what the network side
reads. -/
theorem LkXStep.call_or_quiet {x y : P2P × TLState} (hs : LkXStep x y) (gh : DGhost) (h : LkInvD x.1 gh x.2) :
    (∃ now reqs', x.1.advanceLockstepFrame now [] = .ok (y.1, reqs') ∧ y.2 = execReqs x.2 reqs') ∨
    ∃ gh', LkInvD y.1 gh' y.2 ∧ y.1.outgoingLocalInputs = x.1.outgoingLocalInputs ∧ y.1.handles = x.1.handles ∧
      (∀ p, p ∈ x.1.localPlayerHandles → rget y.1.localConnectStatus p = rget x.1.localConnectStatus p) ∧
      y.1.sync.queues.length = x.1.sync.queues.length ∧
      (∀ p, p ∈ x.1.localPlayerHandles → gh'.specs p = gh.specs p) ∧
      y.1.nextSpectatorFrame = x.1.nextSpectatorFrame := by
  cases hs with
  | tick s s' t now reqs' hadv => exact Or.inl ⟨now, reqs', hadv, rfl⟩
  | remoteInput s s' t now inp player handles addr hnl h0 hev =>
    obtain ⟨gh', st0', h', _, _, hcur, hh, _, hnq, hdf, hgrow, hflags, hdead, hsp⟩ :=
      remoteInput_specD s s' gh t [] _ now inp player handles addr h.sess hnl h0 hev
    obtain ⟨ho, _, hst⟩ := P2P.remoteInput_out s s' now inp player handles addr hev
    have hne : ∀ p, p ∈ s.localPlayerHandles → p ≠ player := fun p hp e => hnl (e ▸ hp)
    exact Or.inr ⟨gh', h.keep h' (remoteInput_idle s s' now inp player handles addr h.idle hev) hdf hcur hnq hgrow hflags
      hdead, ho, hh, fun p hp => hst p (hne p hp), hnq, fun p hp => hsp p (hne p hp),
      P2P.remoteInput_nsf s s' now inp player handles addr hev⟩
  | localInput s t handle input =>
    obtain ⟨l, hl⟩ := P2P.addLocalInput_pending s handle input
    show _ ∨ ∃ gh', LkInvD (s.addLocalInput handle input).1 gh' t ∧ _
    rw [hl]
    exact Or.inr ⟨gh, h.pending l, rfl, rfl, fun _ _ => rfl, rfl, fun _ _ => rfl, rfl⟩
  | dropApi s s' t now handle addr ep hpt hep hin hrem hlt hl0 hsame hcall =>
    obtain ⟨hc, hdrop⟩ := P2P.disconnectPlayer_remote_ok hpt hcall
    obtain ⟨h', hsy, hh, _, hmono, _, hlast, hdf, hoth, hout, _⟩ :=
      drop_specD s s' gh t [] _ now handle addr _ ep h.sess hpt hep hrem ⟨hlt, hc, rfl⟩ hl0 hsame hdrop
    exact Or.inr ⟨gh, drop_lkD s s' gh t ep.handles _ h h' hsy hdf hmono hlast hoth hrem hsame ⟨handle, hin, hlt, hc⟩,
      hout, hh, fun p hp => hoth p (fun hi => hrem p hi hp), by rw [hsy], fun _ _ => rfl,
      P2P.disconnectAt_nsf _ _ _ _ _ hdrop⟩
  | dropEvent s s' t now addr hs ep L hne hpt hep hsub hrem hlt hconn hL0 hsame hev =>
    obtain ⟨s1, hfold, rfl⟩ := P2P.handleEventCore_disconnected_ok hev
    have cfg : DropCfg s hs addr ep.handles L s.localConnectStatus :=
      ⟨hpt, ⟨ep, hep, rfl⟩, hsub, hrem, hlt,
        fun x hx => ⟨hconn x hx, hsame x (hsub x hx) (hlt x hx).2 (hconn x hx)⟩, hL0, hsame⟩
    obtain ⟨h', hsy, hh, _, hmono, _, hlast, hdf, hoth, hout, _⟩ :=
      dropFold_specD gh t [] _ now addr ep.handles L hs s s1 h.sess cfg hfold
    obtain ⟨x0, hx0⟩ := List.exists_mem_of_ne_nil hs hne
    have hl := drop_lkD s s1 gh t ep.handles L h h' hsy hdf hmono hlast hoth hrem hsame
      ⟨x0, hsub x0 hx0, (hlt x0 hx0).2, hconn x0 hx0⟩
    exact Or.inr ⟨gh, ⟨SessInvD_congr s1 _ gh t [] _ hl.sess (s1.pushEvent_sameCore _), hl.idle, hl.df,
      hl.full, hl.rows⟩, hout, hh, fun p hp => hoth p (fun hi => hrem p hi hp), by show s1.sync.queues.length = _; rw [hsy],
      fun _ _ => rfl, P2P.foldlM_rel (P2P.StepRel.proj P2P.nextSpectatorFrame) _ (fun a x b => P2P.disconnectAt_nsf a b now x _) hs s s1 hfold⟩

theorem LkInvD_step (x y : P2P × TLState) (h : ∃ gh, LkInvD x.1 gh x.2) (hs : LkXStep x y) :
    ∃ gh, LkInvD y.1 gh y.2 := by
  obtain ⟨gh, h⟩ := h
  rcases hs.call_or_quiet gh h with ⟨now, reqs', hadv, ht⟩ | ⟨gh', h', _⟩
  · obtain ⟨gh', h', _⟩ := lockstepTick_specD x.1 y.1 gh x.2 now reqs' h hadv
    exact ⟨gh', ht ▸ h'⟩
  · exact ⟨gh', h'⟩

theorem LkInvD_run (x y : P2P × TLState) (h : ∃ gh, LkInvD x.1 gh x.2) (hr : LkXStar x y) :
    ∃ gh, LkInvD y.1 gh y.2 := by
  induction hr with
  | refl => exact h
  | step y z _ hs ih => exact LkInvD_step y z ih hs

theorem LkInvD_init (s : P2P) (R : Nat → List (Input × InputStatus)) (n : Nat)
    (hq : s.sync.queues = List.replicate n InputQueue.new) (hst : s.localConnectStatus = List.replicate n {})
    (hc : s.sync.currentFrame = 0) (hdf : s.disconnectFrame = NULL_FRAME) :
    LkInvD s ⟨fun _ => {}, fun _ => [], fun p f => ((R f).getD p default).1, fun _ => False⟩ ⟨0, R⟩ := by
  refine ⟨SessInvD_of_SessInv s _ ⟨0, R⟩ [] (SessInv_init s R n hq hst hc) hdf, ?_, hdf, ?_, ?_⟩
  · intro p hp
    have : rget s.sync.queues p = InputQueue.new := by
      rw [hq] at hp ⊢
      simp only [List.length_replicate] at hp
      simp [rget, List.getD_eq_getElem?_getD, hp]
    rw [this]; exact idle_new
  · intro p _ _
    rw [hc]; exact Int.natCast_nonneg _
  · intro f hf
    rw [hc] at hf; omega

theorem LkInvD.timeline {s : P2P} {gh : DGhost} {t : TLState} (h : LkInvD s gh t) :
    ∀ f : Nat, (f : Int) < s.sync.currentFrame → t.R f = rowOfD gh s.localConnectStatus s.sync.queues.length f := by
  intro f hf
  obtain ⟨hl, hst⟩ := h.rows f hf
  refine eq_rowOfD gh _ _ f _ hl fun p hp => ?_
  show (t.R f).getD p default = _
  by_cases hsk : Skip (rget s.localConnectStatus p) (f : Int)
  · rw [if_pos hsk]
    exact h.sess.deadRow hp hsk hf
  · have hval := timelineRightD_of_clean s.pred s.sync s.localConnectStatus gh h.sess.tinv.sync
      (fun q hq => (h.idle q hq).2.1) p hp f hf (h.held hp hf hsk) (fun hd => Int.not_lt.mp fun hx => hsk ⟨hd, hx⟩)
    have hs2 := hst p hp
    rw [if_neg hsk] at hs2 ⊢
    exact Prod.ext ((h.sess.col hp f).symm.trans hval) hs2

end Ggrs
