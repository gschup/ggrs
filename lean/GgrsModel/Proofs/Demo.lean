/-
A concrete session and a concrete run, used by the non-vacuity examples of the property files: the
worlds the all-schedules theorems quantify over (`SStar`, `XStar`, …) contain runs in which the
user submits local inputs, remote inputs arrive and `advance_frame` advances several times in a row.
-/
import GgrsModel.Proofs.World
import GgrsModel.Proofs.Lockstep
import GgrsModel.Proofs.DropWorld
import GgrsModel.Proofs.Pair
import GgrsModel.Proofs.Triple
import GgrsModel.Proofs.PairLockstep
import GgrsModel.Proofs.HostSpec

namespace Ggrs
open P2P

/-- Two players: handle 0 local, handle 1 behind address 1; prediction window 8. -/
def demoSession : P2P :=
  { numPlayers := 2, maxPrediction := 8, sync := SyncLayer.new 2 8, sparse := false, running := true, fps := 60,
    handles := [(0, .localPlayer), (1, .remote 1)], remotes := [], spectators := [],
    localConnectStatus := List.replicate 2 {}, desync := none, pred := .repeatLast }

def isOk {α} : Except String α → Bool | .ok _ => true | .error _ => false

def getOk {α} [Inhabited α] : Except String α → α | .ok a => a | .error _ => default

theorem ok_of_isOk {α} [Inhabited α] (r : Except String α) (h : isOk r = true) : r = .ok (getOk r) := by
  cases r with
  | ok a => rfl
  | error e => cases h

def demoTick (s : P2P) (v : Input) : Except String (P2P × List Request) :=
  (s.addLocalInput 0 v).1.advanceRollbackFrame 0 []

def demoSaves (r : P2P × List Request) : List (Frame × Option Nat) := (savedFrames r.2).map fun f => (f, none)

def demoS1 : P2P := (getOk (demoTick demoSession 5)).1
def demoS1x : P2P := demoS1.userExecute (demoSaves (getOk (demoTick demoSession 5)))
/-- the remote player's input for frame 0 arrives: 9, where 0 had been predicted -/
def demoS1r : P2P := getOk (demoS1x.handleEventCore 0 (.input ⟨0, 9⟩ 1) [1] 1)
/-- this call rolls back to frame 0 (Load 0, AdvanceFrame, Save 1, AdvanceFrame) -/
def demoS2 : P2P := (getOk (demoTick demoS1r 6)).1
def demoS2x : P2P := demoS2.userExecute (demoSaves (getOk (demoTick demoS1r 6)))
def demoS3 : P2P := (getOk (demoTick demoS2x 7)).1

/-- The facts about one run are decided together: its states are prefixes of one evaluation, so each
prefix of the run is evaluated once. -/
theorem demo_facts : isOk (demoTick demoSession 5) = true ∧
    isOk (demoS1x.handleEventCore 0 (.input ⟨0, 9⟩ 1) [1] 1) = true ∧ isOk (demoTick demoS1r 6) = true ∧
    (getOk (demoTick demoS1r 6)).2.any (fun r => match r with | .load _ => true | _ => false) = true ∧
    demoS2.sync.currentFrame = 2 ∧ isOk (demoTick demoS2x 7) = true ∧ demoS3.sync.currentFrame = 3 := by
  decide

/-- Stated for any session, so that using it for a state of the run takes no evaluation. -/
theorem SStar.demoTick {a : P2P × TLState} {s : P2P} {t : TLState} (h : SStar a (s, t)) (v : Input)
    (hok : isOk (demoTick s v) = true) :
    SStar a ((getOk (demoTick s v)).1, execReqs t (getOk (demoTick s v)).2) :=
  SStar.step _ _ _ (SStar.step _ _ _ h (SStep.localInput s t 0 v)) (SStep.tick _ _ t 0 _ (ok_of_isOk _ hok))

/-- The concrete run: three advancing calls — the second one rolling back — with a local input
before each, the game's saves after each and a remote input in between, as a path of the session
world. -/
theorem demo_run (t : TLState) : ∃ t', SStar (demoSession, t) (demoS3, t') := by
  obtain ⟨h1, h1r, h2, _, _, h3, _⟩ := demo_facts
  have p1 : SStar (demoSession, t) (demoS1, _) := (SStar.refl _).demoTick 5 h1
  have p1r : SStar (demoSession, t) (demoS1r, _) :=
    SStar.step _ _ _ (SStar.step _ _ _ p1 (SStep.saves demoS1 _ (demoSaves (getOk (demoTick demoSession 5)))))
      (SStep.remoteInput demoS1x demoS1r _ 0 ⟨0, 9⟩ 1 [1] 1 (by decide) (by decide) (ok_of_isOk _ h1r))
  have p2 : SStar (demoSession, t) (demoS2, _) := p1r.demoTick 6 h2
  have p2x : SStar (demoSession, t) (demoS2x, _) :=
    SStar.step _ _ _ p2 (SStep.saves demoS2 _ (demoSaves (getOk (demoTick demoS1r 6))))
  exact ⟨_, p2x.demoTick 7 h3⟩

/-- The peer of `demoSession`: handle 1 local, handle 0 behind address 0. -/
def demoPeer : P2P :=
  { numPlayers := 2, maxPrediction := 8, sync := SyncLayer.new 2 8, sparse := false, running := true, fps := 60,
    handles := [(0, .remote 0), (1, .localPlayer)], remotes := [], spectators := [],
    localConnectStatus := List.replicate 2 {}, desync := none, pred := .repeatLast }

def peerTick (s : P2P) (v : Input) : Except String (P2P × List Request) :=
  (s.addLocalInput 1 v).1.advanceRollbackFrame 0 []

def demoB1 : P2P := (getOk (peerTick demoPeer 9)).1
def demoB1x : P2P := demoB1.userExecute (demoSaves (getOk (peerTick demoPeer 9)))
/-- B receives A's frame 0 (value 5, as A's queue holds it) -/
def demoB1r : P2P := getOk (demoB1x.handleEventCore 0 (.input ⟨0, 5⟩ 0) [0] 0)
-- A receives B's frame 0 (value 9, as B's queue holds it): that is `demoS1r`
def demoB2 : P2P := (getOk (peerTick demoB1r 8)).1

theorem demo_peer_facts : isOk (peerTick demoPeer 9) = true ∧
    isOk (demoB1x.handleEventCore 0 (.input ⟨0, 5⟩ 0) [0] 0) = true ∧ isOk (peerTick demoB1r 8) = true ∧
    demoB2.sync.currentFrame = 2 := by decide

theorem PStar.tickLeft {x} {s : P2P} {t : TLState} {b : P2P × TLState} (h : PStar x ((s, t), b)) (hd : Nat) (v : Input)
    {r : Except String (P2P × List Request)} (hr : (s.addLocalInput hd v).1.advanceRollbackFrame 0 [] = r)
    (hok : isOk r = true) : PStar x (((getOk r).1, execReqs t (getOk r).2), b) :=
  PStar.step _ _ _ (PStar.step _ _ _ h (PStep.left _ _ _ (Half.localInput s t b hd v)))
    (PStep.left _ _ _ (Half.tick _ _ t b 0 _ (hr.trans (ok_of_isOk r hok))))

theorem PStar.tickRight {x} {s : P2P} {t : TLState} {a : P2P × TLState} (h : PStar x (a, (s, t))) (hd : Nat) (v : Input)
    {r : Except String (P2P × List Request)} (hr : (s.addLocalInput hd v).1.advanceRollbackFrame 0 [] = r)
    (hok : isOk r = true) : PStar x (a, ((getOk r).1, execReqs t (getOk r).2)) :=
  PStar.step _ _ _ (PStar.step _ _ _ h (PStep.right _ _ _ (Half.localInput s t a hd v)))
    (PStep.right _ _ _ (Half.tick _ _ t a 0 _ (hr.trans (ok_of_isOk r hok))))

/-- Both sessions tick, each receives the other's frame 0 — taken from the owner's queue — after
having predicted it, and both roll back on their next call: a path of the pair world. -/
theorem demo_pair_run (tA tB : TLState) : ∃ tA' tB', PStar ((demoSession, tA), (demoPeer, tB)) ((demoS2, tA'), (demoB2, tB')) := by
  obtain ⟨h1, h1r, h2, _⟩ := demo_facts
  obtain ⟨k1, k1r, k2, _⟩ := demo_peer_facts
  have p1 : PStar ((demoSession, tA), (demoPeer, tB)) ((demoS1x, _), (demoPeer, tB)) :=
    PStar.step _ _ _ ((PStar.refl _).tickLeft 0 5 rfl h1)
      (PStep.left _ _ _ (Half.saves demoS1 _ (demoPeer, tB) (demoSaves (getOk (demoTick demoSession 5)))))
  have p2 : PStar ((demoSession, tA), (demoPeer, tB)) ((demoS1x, _), (demoB1x, _)) :=
    PStar.step _ _ _ (p1.tickRight 1 9 rfl k1)
      (PStep.right _ _ _ (Half.saves demoB1 _ (demoS1x, _) (demoSaves (getOk (peerTick demoPeer 9)))))
  -- arrivals: A gets B's frame 0, B gets A's frame 0, each from the owner's queue
  have p3 := PStar.step _ _ _ p2 (PStep.left _ _ _
      (Half.arrive demoS1x demoS1r _ (demoB1x, _) 0 0 9 1 [1] 1 (by decide : 1 ∈ demoB1x.localPlayerHandles) (by decide)
        (by decide : 1 < demoB1x.sync.queues.length) (by decide) (by decide)
        (by decide : ((0 : Nat) : Int) ≤ (rget demoB1x.sync.queues 1).lastAddedFrame)
        (by decide : (rget demoB1x.sync.queues 1).lastAddedFrame < ((0 : Nat) : Int) + INPUT_QUEUE_LENGTH)
        (by decide : rget (rget demoB1x.sync.queues 1).inputs (0 % INPUT_QUEUE_LENGTH) = ⟨((0 : Nat) : Int), 9⟩) (ok_of_isOk _ h1r)))
  have p4 : PStar ((demoSession, tA), (demoPeer, tB)) ((demoS1r, _), (demoB1r, _)) := PStar.step _ _ _ p3 (PStep.right _ _ _
      (Half.arrive demoB1x demoB1r _ (demoS1r, _) 0 0 5 0 [0] 0 (by decide : 0 ∈ demoS1r.localPlayerHandles) (by decide)
        (by decide : 0 < demoS1r.sync.queues.length) (by decide) (by decide)
        (by decide : ((0 : Nat) : Int) ≤ (rget demoS1r.sync.queues 0).lastAddedFrame)
        (by decide : (rget demoS1r.sync.queues 0).lastAddedFrame < ((0 : Nat) : Int) + INPUT_QUEUE_LENGTH)
        (by decide : rget (rget demoS1r.sync.queues 0).inputs (0 % INPUT_QUEUE_LENGTH) = ⟨((0 : Nat) : Int), 5⟩) (ok_of_isOk _ k1r)))
  exact ⟨_, _, (p4.tickLeft 0 6 rfl h2).tickRight 1 8 rfl k2⟩

def demoSpecEp : Endpoint := { Endpoint.new [2] 9 2 2 8 2000 500 60 none 77 0 with state := .running }

def demoHost : P2P :=
  { demoSession with handles := [(0, .localPlayer), (1, .remote 1), (2, .spectator 9)], spectators := [(9, demoSpecEp)] }

def hostTick (s : P2P) (v : Input) : Except String (P2P × List Request) :=
  (s.addLocalInput 0 v).1.advanceRollbackFrame 0 []

def demoH1 : P2P := (getOk (hostTick demoHost 5)).1
def demoH1x : P2P := demoH1.userExecute (demoSaves (getOk (hostTick demoHost 5)))
def demoH1r : P2P := getOk (demoH1x.handleEventCore 0 (.input ⟨0, 9⟩ 1) [1] 1)
/-- this call confirms frame 0 and offers it to the spectator endpoint -/
def demoH2 : P2P := (getOk (hostTick demoH1r 6)).1

/-- The spectator (already synchronized with its host). -/
def demoSpec : Spectator :=
  { Spectator.new 2 (Endpoint.new [0, 1] 1 2 1 8 2000 500 60 none 78 0) 10 1 with running := true }
def demoSpec1 : Spectator := getOk (Spectator.recvLoop 0 0 1 [5, 9] 0 demoSpec)
def demoSpec2 : Spectator := (getOk demoSpec1.advanceAfterPoll).1

theorem demo_host_facts : isOk (hostTick demoHost 5) = true ∧
    isOk (demoH1x.handleEventCore 0 (.input ⟨0, 9⟩ 1) [1] 1) = true ∧ isOk (hostTick demoH1r 6) = true ∧
    demoH2.nextSpectatorFrame = 1 := by decide

theorem demo_offered : demoH2.nextSpectatorFrame = 1 := demo_host_facts.2.2.2

/-- the spectator's call hands out one AdvanceFrame carrying the host's row of frame 0 -/
theorem demo_spec_facts : isOk (Spectator.recvLoop 0 0 1 [5, 9] 0 demoSpec) = true ∧
    isOk demoSpec1.advanceAfterPoll = true ∧
    (getOk demoSpec1.advanceAfterPoll).2 = .ok [.advance [(5, .confirmed), (9, .confirmed)]] := by decide

theorem demo_spec_row : (getOk demoSpec1.advanceAfterPoll).2 =
    .ok [.advance [(5, .confirmed), (9, .confirmed)]] := demo_spec_facts.2.2

/-- Host: input, call, saves, arrival, input, call (frame 0 confirmed and offered); the row of frame 0
arrives at the spectator, read off the host's queues; the spectator advances. -/
theorem demo_hostspec_run (t : TLState) :
    ∃ t' n, HSStar ((demoHost, t), (demoSpec, [], 0)) ((demoH2, t'), (demoSpec2, [[5, 9]], n)) ∧ n = 1 := by
  obtain ⟨h1, h1r, h2, _⟩ := demo_host_facts
  obtain ⟨k1, k2, _⟩ := demo_spec_facts
  have p1 := HSStar.step _ _ _ (HSStar.step _ _ _ (HSStar.step _ _ _ (HSStar.refl ((demoHost, t), (demoSpec, [], 0)))
      (HSStep.host _ _ _ (SStep.localInput demoHost t 0 5)))
      (HSStep.host _ _ _ (SStep.tick _ demoH1 t 0 (getOk (hostTick demoHost 5)).2 (ok_of_isOk _ h1))))
      (HSStep.host _ _ _ (SStep.saves demoH1 _ (demoSaves (getOk (hostTick demoHost 5)))))
  have p2 := HSStar.step _ _ _ (HSStar.step _ _ _ (HSStar.step _ _ _ p1
      (HSStep.host _ _ _ (SStep.remoteInput demoH1x demoH1r _ 0 ⟨0, 9⟩ 1 [1] 1 (by decide) (by decide) (ok_of_isOk _ h1r))))
      (HSStep.host _ _ _ (SStep.localInput demoH1r _ 0 6)))
      (HSStep.host _ _ _ (SStep.tick _ demoH2 _ 0 (getOk (hostTick demoH1r 6)).2 (ok_of_isOk _ h2)))
  have p3 := HSStar.step _ _ _ p2
      (HSStep.specRecv (demoH2, _) demoSpec demoSpec1 [] 0 0 1 [5, 9] (by decide) (by decide : [5, 9].length = demoH2.sync.queues.length)
        (by decide : (([] : List (List Input)).length : Int) < demoH2.nextSpectatorFrame)
        (by decide : ∀ h, h < demoH2.sync.queues.length →
          ((([] : List (List Input)).length : Nat) : Int) ≤ (rget demoH2.sync.queues h).lastAddedFrame ∧
          (rget demoH2.sync.queues h).lastAddedFrame < ((([] : List (List Input)).length : Nat) : Int) + INPUT_QUEUE_LENGTH ∧
          rget (rget demoH2.sync.queues h).inputs (([] : List (List Input)).length % INPUT_QUEUE_LENGTH) =
            ⟨((([] : List (List Input)).length : Nat) : Int), [5, 9].getD h 0⟩) (ok_of_isOk _ k1))
  have p4 := HSStar.step _ _ _ p3 (HSStep.specAdvance (demoH2, _) demoSpec1 demoSpec2 [[5, 9]] 0 _ (ok_of_isOk _ k2))
  exact ⟨_, _, p4, by decide⟩

/-- The first call of a session: `advance_frame_after_poll` saves frame 0 before anything else. -/
def demoSave0 : SyncLayer × Request := getOk ((demoSession.addLocalInput 0 5).1.sync.saveCurrentState)
def demoW1r : Except String (P2P × List Request) :=
  ({ (demoSession.addLocalInput 0 5).1 with sync := demoSave0.1 } : P2P).advanceRollbackFrame 0 [demoSave0.2]
def demoW1 : P2P := (getOk demoW1r).1.userExecute (demoSaves (getOk demoW1r))
def demoW1in : P2P := getOk (demoW1.handleEventCore 0 (.input ⟨0, 9⟩ 1) [1] 1)
def demoW2r : Except String (P2P × List Request) := (demoW1in.addLocalInput 0 6).1.advanceRollbackFrame 0 []
def demoW2 : P2P := (getOk demoW2r).1.userExecute (demoSaves (getOk demoW2r))

theorem demo_world_facts : isOk ((demoSession.addLocalInput 0 5).1.sync.saveCurrentState) = true ∧
    isOk demoW1r = true ∧ isOk (demoW1.handleEventCore 0 (.input ⟨0, 9⟩ 1) [1] 1) = true ∧ isOk demoW2r = true ∧
    demoW2.sync.currentFrame = 2 ∧ (getOk demoW1r).2.head? = some (.save 0) ∧
    (getOk demoW2r).2.any (fun r => match r with | .load 0 => true | _ => false) = true := by decide

theorem demo_frameW2 : demoW2.sync.currentFrame = 2 := demo_world_facts.2.2.2.2.1
theorem demo_reqsW : (getOk demoW1r).2.head? = some (.save 0) ∧
    (getOk demoW2r).2.any (fun r => match r with | .load 0 => true | _ => false) = true := demo_world_facts.2.2.2.2.2

/-- A session next to a game (any game): local input, first call (with its save of frame 0), the
remote input that contradicts the prediction, local input, a call that rolls back — a path of the
world with a game, every save reaching its cell. -/
theorem demo_world_run {G : Type} (step : G → List (Input × InputStatus) → G) (x : GS G) :
    ∃ x', WStar step (demoSession, x) (demoW2, x') := by
  obtain ⟨h0, h1, h1i, h2, _⟩ := demo_world_facts
  have hs : ∀ r : P2P × List Request, (demoSaves r).map (·.1) = savedFrames r.2 := by
    intro r; unfold demoSaves
    rw [List.map_map]
    have : ((fun x : Frame × Option Nat => x.1) ∘ fun f => (f, none)) = id := rfl
    rw [this, List.map_id]
  have p1 := WStar.step (step := step) _ _ _ (WStar.step (step := step) _ _ _ (WStar.refl (step := step) (demoSession, x))
      (WStep.localInput (step := step) demoSession x 0 5))
      (WStep.tick0 (step := step) (demoSession.addLocalInput 0 5).1 (getOk demoW1r).1 x 0 demoSave0.1 demoSave0.2 (getOk demoW1r).2
        (demoSaves (getOk demoW1r)) (by decide) (ok_of_isOk _ h0) (ok_of_isOk _ h1) (hs _))
  have p2 := WStar.step (step := step) _ _ _ p1 (WStep.remoteInput (step := step) demoW1 demoW1in _ 0 ⟨0, 9⟩ 1 [1] 1 (by decide) (by decide) (ok_of_isOk _ h1i))
  have p3 := WStar.step (step := step) _ _ _ (WStar.step (step := step) _ _ _ p2 (WStep.localInput (step := step) demoW1in _ 0 6))
      (WStep.tick (step := step) (demoW1in.addLocalInput 0 6).1 (getOk demoW2r).1 _ 0 (getOk demoW2r).2 (demoSaves (getOk demoW2r)) (ok_of_isOk _ h2) (hs _))
  exact ⟨_, p3⟩

def demoLk : P2P := { demoSession with maxPrediction := 0, sync := SyncLayer.new 2 0 }
def lkTick (s : P2P) (v : Input) : Except String (P2P × List Request) :=
  (s.addLocalInput 0 v).1.advanceLockstepFrame 0 []
/-- stalls: the remote input of frame 0 is missing -/
def demoLk1 : P2P := (getOk (lkTick demoLk 5)).1
def demoLk1r : P2P := getOk (demoLk1.handleEventCore 0 (.input ⟨0, 9⟩ 1) [1] 1)
def demoLk2 : P2P := (getOk (lkTick demoLk1r 5)).1

theorem demo_lk_ok : isOk (lkTick demoLk 5) = true ∧ isOk (demoLk1.handleEventCore 0 (.input ⟨0, 9⟩ 1) [1] 1) = true ∧
    isOk (lkTick demoLk1r 5) = true ∧ (getOk (lkTick demoLk 5)).2 = [] ∧ demoLk1.sync.currentFrame = 0 ∧
    (getOk (lkTick demoLk1r 5)).2 = [.advance [(5, .confirmed), (9, .confirmed)]] ∧ demoLk2.sync.currentFrame = 1 := by
  decide

theorem demo_lk_facts : (getOk (lkTick demoLk 5)).2 = [] ∧ demoLk1.sync.currentFrame = 0 ∧
    (getOk (lkTick demoLk1r 5)).2 = [.advance [(5, .confirmed), (9, .confirmed)]] ∧ demoLk2.sync.currentFrame = 1 :=
  demo_lk_ok.2.2.2

theorem demo_lockstep_run (t : TLState) : ∃ t', LkStar (demoLk, t) (demoLk2, t') := by
  obtain ⟨h1, h1r, h2, _⟩ := demo_lk_ok
  have p1 := LkStar.step _ _ _ (LkStar.step _ _ _ (LkStar.refl (demoLk, t)) (LkStep.localInput demoLk t 0 5))
      (LkStep.tick _ demoLk1 t 0 (getOk (lkTick demoLk 5)).2 (ok_of_isOk _ h1))
  have p2 := LkStar.step _ _ _ p1 (LkStep.remoteInput demoLk1 demoLk1r _ 0 ⟨0, 9⟩ 1 [1] 1 (by decide) (by decide) (ok_of_isOk _ h1r))
  have p3 := LkStar.step _ _ _ (LkStar.step _ _ _ p2 (LkStep.localInput demoLk1r _ 0 5))
      (LkStep.tick _ demoLk2 _ 0 (getOk (lkTick demoLk1r 5)).2 (ok_of_isOk _ h2))
  exact ⟨_, p3⟩

/-- An endpoint for the remote player of `demoSession`: with it (`demoD0`) the player can be dropped. -/
def demoDropEp : Endpoint := { Endpoint.new [1] 1 2 1 8 2000 500 60 none 55 0 with handles := [1], state := .running }
def demoD0 : P2P := { demoSession with remotes := [(1, demoDropEp)] }
def dTick (s : P2P) (v : Input) : Except String (P2P × List Request) :=
  (s.addLocalInput 0 v).1.advanceRollbackFrame 0 []
def demoD1 : P2P := ((getOk (dTick demoD0 5)).1).userExecute (demoSaves (getOk (dTick demoD0 5)))
def demoD2 : P2P := ((getOk (dTick demoD1 6)).1).userExecute (demoSaves (getOk (dTick demoD1 6)))
/-- the user drops the remote player, whose input never arrived: frames 0 and 1 were predicted -/
def demoD3 : P2P := (getOk (demoD2.disconnectPlayer 0 1)).1
/-- this call re-simulates frames 0 and 1 with the player marked Disconnected -/
def demoD4r : Except String (P2P × List Request) := dTick demoD3 7

theorem demo_drop_ok : isOk (dTick demoD0 5) = true ∧ isOk (dTick demoD1 6) = true ∧
    isOk (demoD2.disconnectPlayer 0 1) = true ∧ (getOk (demoD2.disconnectPlayer 0 1)).2 = .ok () ∧ isOk demoD4r = true ∧
    (getOk demoD4r).2.any (fun r => match r with | .load 0 => true | _ => false) = true ∧
    (getOk demoD4r).2.getLast? = some (.advance [(7, .confirmed), (0, .disconnected)]) := by decide

theorem demo_drop_facts : (getOk demoD4r).2.any (fun r => match r with | .load 0 => true | _ => false) = true ∧
    (getOk demoD4r).2.getLast? = some (.advance [(7, .confirmed), (0, .disconnected)]) := demo_drop_ok.2.2.2.2.2

def demoD4 : P2P := (getOk demoD4r).1
def demoD2ep : Endpoint := (P2P.findEp demoD2.remotes 1).getD demoDropEp

theorem some_getD_of_isSome {α} (o : Option α) (d : α) (h : o.isSome = true) : o = some (o.getD d) := by
  cases o with
  | none => cases h
  | some a => rfl

/-- Two calls with the remote player's input missing (predicted), an accepted `disconnect_player`,
and the call that re-simulates both frames with the player marked Disconnected: a path of the world
with drops. -/
theorem demo_drop_run (t : TLState) : ∃ t', XStar (demoD0, t) (demoD4, t') := by
  obtain ⟨h1, h2, h3, h3', h4, _⟩ := demo_drop_ok
  have e3' : demoD2.disconnectPlayer 0 1 = .ok (demoD3, .ok ()) := by
    rw [ok_of_isOk _ h3]
    have : getOk (demoD2.disconnectPlayer 0 1) = (demoD3, (getOk (demoD2.disconnectPlayer 0 1)).2) := rfl
    rw [this, h3']
  have p1 := XStar.step _ _ _ (XStar.step _ _ _ (XStar.step _ _ _ (XStar.refl (demoD0, t))
      (XStep.localInput demoD0 t 0 5))
      (XStep.tick _ (getOk (dTick demoD0 5)).1 t 0 (getOk (dTick demoD0 5)).2 (ok_of_isOk _ h1)))
      (XStep.saves (getOk (dTick demoD0 5)).1 _ (demoSaves (getOk (dTick demoD0 5))))
  have p2 := XStar.step _ _ _ (XStar.step _ _ _ (XStar.step _ _ _ p1
      (XStep.localInput demoD1 _ 0 6))
      (XStep.tick _ (getOk (dTick demoD1 6)).1 _ 0 (getOk (dTick demoD1 6)).2 (ok_of_isOk _ h2)))
      (XStep.saves (getOk (dTick demoD1 6)).1 _ (demoSaves (getOk (dTick demoD1 6))))
  have p3 := XStar.step _ _ _ p2 (XStep.dropApi demoD2 demoD3 _ 0 1 1 demoD2ep (by decide)
      (some_getD_of_isSome (P2P.findEp demoD2.remotes 1) demoDropEp (by decide)) (by decide)
      (by decide) (by decide) (by decide) e3')
  have p4 := XStar.step _ _ _ (XStar.step _ _ _ p3 (XStep.localInput demoD3 _ 0 7))
      (XStep.tick _ demoD4 _ 0 (getOk demoD4r).2 (ok_of_isOk _ h4))
  exact ⟨_, p4⟩

def tri (own : Nat) : P2P :=
  { numPlayers := 3, maxPrediction := 8, sync := SyncLayer.new 3 8, sparse := false, running := true, fps := 60,
    handles := [(0, if own = 0 then .localPlayer else .remote 0), (1, if own = 1 then .localPlayer else .remote 1),
                (2, if own = 2 then .localPlayer else .remote 2)],
    remotes := [], spectators := [], localConnectStatus := List.replicate 3 {}, desync := none, pred := .repeatLast }

def triTick (s : P2P) (h : Nat) (v : Input) : Except String (P2P × List Request) :=
  (s.addLocalInput h v).1.advanceRollbackFrame 0 []

def triA1 : P2P := ((getOk (triTick (tri 0) 0 4)).1).userExecute (demoSaves (getOk (triTick (tri 0) 0 4)))
/-- B and C each receive A's frame 0 (value 4, as A's queue holds it) -/
def triB1 : P2P := getOk ((tri 1).handleEventCore 0 (.input ⟨0, 4⟩ 0) [0] 0)
def triC1 : P2P := getOk ((tri 2).handleEventCore 0 (.input ⟨0, 4⟩ 0) [0] 0)

theorem tri_okA : isOk (triTick (tri 0) 0 4) = true := by decide
theorem tri_okB : isOk ((tri 1).handleEventCore 0 (.input ⟨0, 4⟩ 0) [0] 0) = true := by decide
theorem tri_okC : isOk ((tri 2).handleEventCore 0 (.input ⟨0, 4⟩ 0) [0] 0) = true := by decide

/-- A submits an input and simulates frame 0; its frame 0 then arrives at B and at C, each time read
off A's queue: a path of the triple world. -/
theorem demo_triple_run (tA tB tC : TLState) :
    ∃ tA', TStar ⟨(tri 0, tA), (tri 1, tB), (tri 2, tC)⟩ ⟨(triA1, tA'), (triB1, tB), (triC1, tC)⟩ := by
  have p1 : TStar ⟨(tri 0, tA), (tri 1, tB), (tri 2, tC)⟩ ⟨((tri 0).addLocalInput 0 4 |>.1, tA), (tri 1, tB), (tri 2, tC)⟩ :=
    TStar.step _ _ _ (TStar.refl _) (TStep.aFromB ⟨(tri 0, tA), (tri 1, tB), (tri 2, tC)⟩ _ (TMove.localInput (tri 0) tA _ _ 0 4))
  have p2 := TStar.step _ _ _ p1 (TStep.aFromB ⟨(((tri 0).addLocalInput 0 4).1, tA), (tri 1, tB), (tri 2, tC)⟩ _
      (TMove.tick _ (getOk (triTick (tri 0) 0 4)).1 tA _ _ 0 (getOk (triTick (tri 0) 0 4)).2 (ok_of_isOk _ tri_okA)))
  have p3 := TStar.step _ _ _ p2 (TStep.aFromB ⟨((getOk (triTick (tri 0) 0 4)).1, _), (tri 1, tB), (tri 2, tC)⟩ _
      (TMove.saves (getOk (triTick (tri 0) 0 4)).1 _ _ _ (demoSaves (getOk (triTick (tri 0) 0 4)))))
  -- A owns player 0 and its ring holds frame 0 with value 4
  obtain ⟨a1, a2, a3, a4, a5⟩ : 0 ∈ triA1.localPlayerHandles ∧ 0 < triA1.sync.queues.length ∧
      ((0 : Nat) : Int) ≤ (rget triA1.sync.queues 0).lastAddedFrame ∧
      (rget triA1.sync.queues 0).lastAddedFrame < ((0 : Nat) : Int) + INPUT_QUEUE_LENGTH ∧
      rget (rget triA1.sync.queues 0).inputs (0 % INPUT_QUEUE_LENGTH) = ⟨((0 : Nat) : Int), 4⟩ := by decide
  have p4 := TStar.step _ _ _ p3 (TStep.bFromA ⟨(triA1, _), (tri 1, tB), (tri 2, tC)⟩ _
      (TMove.arrive (tri 1) triB1 tB (triA1, _) (tri 2, tC) 0 0 4 0 [0] 0
        a1 (by decide) (by decide : 0 ∉ (tri 2).localPlayerHandles) a2 (by decide) (by decide) a3 a4 a5 (ok_of_isOk _ tri_okB)))
  have p5 := TStar.step _ _ _ p4 (TStep.cFromA ⟨(triA1, _), (triB1, tB), (tri 2, tC)⟩ _
      (TMove.arrive (tri 2) triC1 tC (triA1, _) (triB1, tB) 0 0 4 0 [0] 0
        a1 (by decide) (by decide : 0 ∉ triB1.localPlayerHandles) a2 (by decide) (by decide) a3 a4 a5 (ok_of_isOk _ tri_okC)))
  exact ⟨_, p5⟩

def demoLkPeer : P2P := { demoPeer with maxPrediction := 0, sync := SyncLayer.new 2 0 }
def lkPeerTick (s : P2P) (v : Input) : Except String (P2P × List Request) :=
  (s.addLocalInput 1 v).1.advanceLockstepFrame 0 []
/-- B's call stalls (A's input is missing) but registers B's own input in its queue -/
def demoLkB1 : P2P := (getOk (lkPeerTick demoLkPeer 9)).1
-- A receives B's frame 0 from B's queue: that is `demoLk1r`; A's next call simulates frame 0: `demoLk2`
theorem demo_okLkB1 : isOk (lkPeerTick demoLkPeer 9) = true := by decide

theorem demo_lkpair_run (tA tB : TLState) :
    ∃ tA' tB', LkPStar ((demoLk, tA), (demoLkPeer, tB)) ((demoLk2, tA'), (demoLkB1, tB')) := by
  obtain ⟨h1, h1r, h2, _⟩ := demo_lk_ok
  have p1 := LkPStar.step _ _ _ (LkPStar.step _ _ _ (LkPStar.refl ((demoLk, tA), (demoLkPeer, tB)))
      (LkPStep.left _ _ _ (LkHalf.localInput demoLk tA (demoLkPeer, tB) 0 5)))
      (LkPStep.left _ _ _ (LkHalf.tick _ demoLk1 tA (demoLkPeer, tB) 0 (getOk (lkTick demoLk 5)).2 (ok_of_isOk _ h1)))
  have p2 := LkPStar.step _ _ _ (LkPStar.step _ _ _ p1
      (LkPStep.right _ _ _ (LkHalf.localInput demoLkPeer tB (demoLk1, _) 1 9)))
      (LkPStep.right _ _ _ (LkHalf.tick _ demoLkB1 tB (demoLk1, _) 0 (getOk (lkPeerTick demoLkPeer 9)).2 (ok_of_isOk _ demo_okLkB1)))
  have p3 := LkPStar.step _ _ _ p2 (LkPStep.left _ _ _
      (LkHalf.arrive demoLk1 demoLk1r _ (demoLkB1, _) 0 0 9 1 [1] 1 (by decide : 1 ∈ demoLkB1.localPlayerHandles) (by decide)
        (by decide : 1 < demoLkB1.sync.queues.length) (by decide) (by decide)
        (by decide : ((0 : Nat) : Int) ≤ (rget demoLkB1.sync.queues 1).lastAddedFrame)
        (by decide : (rget demoLkB1.sync.queues 1).lastAddedFrame < ((0 : Nat) : Int) + INPUT_QUEUE_LENGTH)
        (by decide : rget (rget demoLkB1.sync.queues 1).inputs (0 % INPUT_QUEUE_LENGTH) = ⟨((0 : Nat) : Int), 9⟩) (ok_of_isOk _ h1r)))
  have p4 := LkPStar.step _ _ _ (LkPStar.step _ _ _ p3
      (LkPStep.left _ _ _ (LkHalf.localInput demoLk1r _ (demoLkB1, _) 0 5)))
      (LkPStep.left _ _ _ (LkHalf.tick _ demoLk2 _ (demoLkB1, _) 0 (getOk (lkTick demoLk1r 5)).2 (ok_of_isOk _ h2)))
  exact ⟨_, _, p4⟩

end Ggrs
