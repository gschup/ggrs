/-
L-stream, receiver side: whatever subset of the sender's input packets arrives, in whatever order
and however often, the inputs the receiving endpoint hands to its session are a gapless, in-order
prefix of the stream the sender sent. A packet of the sender is `encode(ref, S[start .. start+n))` with
`start_frame = start`, `ref` the input before `start` (zeros before the first one) — what
`send_pending_output` produces from `last_acked_input` and `pending_output`.
This file: `last_recv_frame` as the largest key of `recv_inputs`.
-/
import GgrsModel.Proofs.Endpoint
import GgrsModel.Proofs.Assoc
import GgrsModel.Proofs.Delta

namespace Ggrs
open Codec (Bytes)

theorem add_toNat_sub {a b : Int} (h : a ≤ b) : a + ((b - a).toNat : Int) = b := by
  rw [Int.toNat_of_nonneg (Int.sub_nonneg.mpr h), Int.add_comm, Int.sub_add_cancel]

theorem toNat_sub_succ {x a : Int} (h : a < x) : (x - a).toNat = (x - (a + 1)).toNat + 1 := by
  rw [← Int.toNat_add_nat (Int.sub_nonneg.mpr (Int.add_one_le_of_lt h)), Int.natCast_one, ← Int.sub_sub,
    Int.sub_add_cancel]

/-- largest key of an association list (`NULL_FRAME` for the empty one): `last_recv_frame`. -/
def maxKey {β} : List (Int × β) → Int
  | [] => NULL_FRAME
  | (k, _) :: rest => rest.foldl (fun m p => max m p.1) k

theorem lastRecvFrame_eq (e : Endpoint) : e.lastRecvFrame = maxKey e.recvInputs := by
  unfold Endpoint.lastRecvFrame maxKey
  cases e.recvInputs with
  | nil => rfl
  | cons p rest => rfl

theorem foldl_max_spec {β} (l : List (Int × β)) (m : Int) :
    m ≤ l.foldl (fun m p => max m p.1) m ∧ (∀ p ∈ l, p.1 ≤ l.foldl (fun m p => max m p.1) m) ∧
    (l.foldl (fun m p => max m p.1) m = m ∨ ∃ p ∈ l, p.1 = l.foldl (fun m p => max m p.1) m) := by
  induction l generalizing m with
  | nil => exact ⟨Int.le_refl _, fun p hp => (by cases hp), Or.inl rfl⟩
  | cons x xs ih =>
    simp only [List.foldl_cons]
    obtain ⟨h1, h2, h3⟩ := ih (max m x.1)
    refine ⟨Int.le_trans (Int.le_max_left _ _) h1, ?_, ?_⟩
    · intro p hp
      rcases List.mem_cons.mp hp with rfl | hin
      · exact Int.le_trans (Int.le_max_right _ _) h1
      · exact h2 p hin
    · rcases h3 with h | ⟨p, hp, h⟩
      · rw [h]
        by_cases hm : m ≤ x.1
        · exact Or.inr ⟨x, List.mem_cons_self, (Int.max_eq_right hm).symm⟩
        · exact Or.inl (Int.max_eq_left (Int.le_of_lt (Int.not_le.mp hm)))
      · exact Or.inr ⟨p, List.mem_cons_of_mem _ hp, h⟩

theorem maxKey_spec {β} (l : List (Int × β)) (hne : l ≠ []) :
    (∀ p ∈ l, p.1 ≤ maxKey l) ∧ ∃ p ∈ l, p.1 = maxKey l := by
  cases l with
  | nil => exact absurd rfl hne
  | cons x xs =>
    obtain ⟨h1, h2, h3⟩ := foldl_max_spec xs x.1
    constructor
    · intro p hp
      rcases List.mem_cons.mp hp with rfl | hin
      · exact h1
      · exact h2 p hin
    · rcases h3 with h | ⟨p, hp, h⟩
      · exact ⟨x, List.mem_cons_self, h.symm⟩
      · exact ⟨p, List.mem_cons_of_mem _ hp, h⟩

theorem maxKey_unique {β} (l : List (Int × β)) (hne : l ≠ []) (m : Int)
    (hub : ∀ p ∈ l, p.1 ≤ m) (hmem : ∃ p ∈ l, p.1 = m) : maxKey l = m := by
  obtain ⟨h1, p, hp, hpe⟩ := maxKey_spec l hne
  obtain ⟨q, hq, hqe⟩ := hmem
  exact Int.le_antisymm (hpe ▸ hub p hp) (hqe ▸ h1 q hq)

theorem maxKey_ainsert {β} (k : Int) (v : β) (l : List (Int × β)) (hne : l ≠ []) :
    maxKey (ainsert k v l) = max k (maxKey l) := by
  obtain ⟨hub, q, hq, hqe⟩ := maxKey_spec l hne
  apply maxKey_unique _ (ainsert_ne_nil k v l)
  · intro p hp
    rcases mem_ainsert_sub k v l p hp with rfl | hin
    · exact Int.le_max_left _ _
    · exact Int.le_trans (hub p hin) (Int.le_max_right _ _)
  · by_cases hk : maxKey l ≤ k
    · exact ⟨(k, v), self_mem_ainsert k v l, (Int.max_eq_left hk).symm⟩
    · obtain ⟨p, hp, hpe⟩ := key_mem_ainsert k v l q hq
      exact ⟨p, hp, by rw [hpe, hqe, Int.max_eq_right (Int.le_of_lt (Int.not_le.mp hk))]⟩

theorem maxKey_filter {β} (l : List (Int × β)) (hne : l ≠ []) (keep : Int → Bool)
    (hk : keep (maxKey l) = true) :
    (l.filter fun p => keep p.1) ≠ [] ∧ maxKey (l.filter fun p => keep p.1) = maxKey l := by
  obtain ⟨hub, q, hq, hqe⟩ := maxKey_spec l hne
  have hq' : q ∈ l.filter fun p => keep p.1 := List.mem_filter.mpr ⟨hq, by rw [hqe]; exact hk⟩
  have hne' := List.ne_nil_of_mem hq'
  exact ⟨hne', maxKey_unique _ hne' _ (fun p hp => hub p (List.mem_filter.mp hp).1) ⟨q, hq', hqe⟩⟩

end Ggrs
