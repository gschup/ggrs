/-
L-events: the lifecycle events one endpoint hands to its session, over every sequence of incoming
messages, polls, `send_input` calls and disconnects, form a word of the language
  Synchronizing(1) … Synchronizing(total-1) Synchronized (NetworkInterrupted NetworkResumed)*
  [NetworkInterrupted] [Disconnected]
with nothing after Disconnected (Input events are not lifecycle events and may occur anywhere).
-/
import GgrsModel.Proofs.Endpoint

namespace Ggrs
namespace Endpoint

/-- States of the lifecycle automaton: `sync k` after `k` Synchronizing events, `running i` with `i` set
between a NetworkInterrupted and the next NetworkResumed. -/
inductive Ls where
  | sync (k : Nat)
  | running (interrupted : Bool)
  | disconnected
  deriving DecidableEq

def accEv : Ls → ProtoEvent → Option Ls
  | ls, .input _ _ => some ls
  | .sync k, .synchronizing total count =>
    if total = NUM_SYNC_PACKETS ∧ count = k + 1 ∧ count < total then some (.sync (k + 1)) else none
  | .sync k, .synchronized => if k + 1 = NUM_SYNC_PACKETS then some (.running false) else none
  | .running false, .networkInterrupted _ => some (.running true)
  | .running true, .networkResumed => some (.running false)
  | .running _, .disconnected => some .disconnected
  | _, _ => none

def accList : Ls → List ProtoEvent → Option Ls
  | ls, [] => some ls
  | ls, e :: es => match accEv ls e with
    | some ls' => accList ls' es
    | none => none

theorem accList_append (ls : Ls) (a b : List ProtoEvent) :
    accList ls (a ++ b) = (accList ls a).bind (fun l => accList l b) := by
  induction a generalizing ls with
  | nil => rfl
  | cons x xs ih =>
    simp only [List.cons_append, accList]
    cases accEv ls x with
    | none => rfl
    | some l => exact ih l

theorem accList_one {ls ls' : Ls} {x : ProtoEvent} (h : accEv ls x = some ls') : accList ls [x] = some ls' := by
  simp only [accList, h]

theorem accList_inputs (ls : Ls) (pis : List (PlayerInput × Nat)) (hs : List Nat) :
    accList ls (pis.map fun (pi, j) => ProtoEvent.input pi (hs.getD j 0)) = some ls := by
  induction pis with
  | nil => rfl
  | cons x xs ih => exact ih

/-- The automaton state that everything emitted so far has reached, read off the endpoint's state and
flags. A Disconnected or Shutdown endpoint emits nothing more, so nothing is asked of it. -/
def Cons (v : Ev) (lq : Ls) : Prop :=
  match v.state with
  | .initializing => lq = .sync 0 ∧ v.dns = false ∧ v.des = false
  | .synchronizing => lq = .sync (NUM_SYNC_PACKETS - v.syncRemaining) ∧ 1 ≤ v.syncRemaining ∧
      v.syncRemaining ≤ NUM_SYNC_PACKETS ∧ v.dns = false ∧ v.des = false
  | .running => lq = if v.des then .disconnected else .running v.dns
  | _ => True

theorem Cons_initializing {e : Endpoint} {lq : Ls} (hst : e.state = .initializing) :
    Cons e.ev lq ↔ lq = .sync 0 ∧ e.disconnectNotifySent = false ∧ e.disconnectEventSent = false := by
  unfold Cons; rw [show e.ev.state = _ from hst]; rfl

theorem Cons_synchronizing {e : Endpoint} {lq : Ls} (hst : e.state = .synchronizing) :
    Cons e.ev lq ↔ lq = .sync (NUM_SYNC_PACKETS - e.syncRemaining) ∧ 1 ≤ e.syncRemaining ∧
      e.syncRemaining ≤ NUM_SYNC_PACKETS ∧ e.disconnectNotifySent = false ∧ e.disconnectEventSent = false := by
  unfold Cons; rw [show e.ev.state = _ from hst]; rfl

theorem Cons_running {e : Endpoint} {lq : Ls} (hst : e.state = .running) :
    Cons e.ev lq ↔ lq = if e.disconnectEventSent then .disconnected else .running e.disconnectNotifySent := by
  unfold Cons; rw [show e.ev.state = _ from hst]; rfl

theorem Cons_frozen {e : Endpoint} (lq : Ls) (hst : e.state = .disconnected ∨ e.state = .shutdown) :
    Cons e.ev lq := by
  unfold Cons
  rcases hst with hst | hst <;> rw [show e.ev.state = _ from hst] <;> trivial

def StepOK (v v' : Ev) : Prop :=
  ∀ lq, Cons v lq → ∃ new lq', v'.queue = v.queue ++ new ∧ accList lq new = some lq' ∧ Cons v' lq'

theorem StepOK.refl (v : Ev) : StepOK v v := fun lq h => ⟨[], lq, by simp, rfl, h⟩

theorem StepOK.trans {a b c : Ev} (h1 : StepOK a b) (h2 : StepOK b c) : StepOK a c := by
  intro lq h
  obtain ⟨n1, l1, e1, a1, c1⟩ := h1 lq h
  obtain ⟨n2, l2, e2, a2, c2⟩ := h2 l1 c1
  refine ⟨n1 ++ n2, l2, by rw [e2, e1, List.append_assoc], ?_, c2⟩
  rw [accList_append, a1]; exact a2

theorem StepOK_of_ev {e e' : Endpoint} (h : e'.ev = e.ev) : StepOK e.ev e'.ev := h ▸ StepOK.refl e.ev

theorem StepOK_frozen {e e' : Endpoint} (hst : e'.state = .disconnected ∨ e'.state = .shutdown)
    (hq : e'.eventQueue = e.eventQueue) : StepOK e.ev e'.ev :=
  fun lq _ => ⟨[], lq, by rw [List.append_nil]; exact hq, rfl, Cons_frozen lq hst⟩

theorem StepOK_running {e e' : Endpoint} (hrun : e.state = .running) (hrun' : e'.state = .running) (x : ProtoEvent)
    (hq : e'.eventQueue = e.eventQueue ++ [x])
    (hacc : accEv (if e.disconnectEventSent then .disconnected else .running e.disconnectNotifySent) x =
      some (if e'.disconnectEventSent then .disconnected else .running e'.disconnectNotifySent)) :
    StepOK e.ev e'.ev := by
  intro lq hc
  rw [Cons_running hrun] at hc
  subst hc
  exact ⟨[x], _, hq, accList_one hacc, Iff.mpr (Cons_running hrun') rfl⟩

theorem StepOK_disconnected (e : Endpoint) (hrun : e.state = .running) (hdes : e.disconnectEventSent = false) :
    StepOK e.ev (ev { e with eventQueue := e.eventQueue ++ [.disconnected], disconnectEventSent := true }) :=
  StepOK_running hrun hrun _ rfl (by rw [hdes]; cases e.disconnectNotifySent <;> rfl)

theorem StepOK_interrupted (e : Endpoint) (hrun : e.state = .running) (hdns : e.disconnectNotifySent = false)
    (hdes : e.disconnectEventSent = false) (x : Nat) :
    StepOK e.ev (ev { e with eventQueue := e.eventQueue ++ [.networkInterrupted x], disconnectNotifySent := true }) :=
  StepOK_running hrun hrun _ rfl (by rw [hdes, hdns]; rfl)

theorem StepOK_storeFrame (e : Endpoint) (f : Frame) (inp : Codec.Bytes) (pis : List PlayerInput) :
    StepOK e.ev (e.storeFrame f inp pis).ev :=
  fun lq hc => ⟨_, lq, rfl, accList_inputs lq _ _, hc⟩

theorem StepOK_acceptInputs (start : Frame) (xs : List Codec.Bytes) (e : Endpoint) (i : Nat) :
    StepOK e.ev (acceptInputs e start xs i).1.ev :=
  acceptInputs_preserves (P := fun e' => StepOK e.ev e'.ev)
    (fun e' f x pis h => h.trans (StepOK_storeFrame e' f x pis)) start xs e i (StepOK.refl _)

theorem StepOK_acceptDecoded (e : Endpoint) (now : Nat) (start : Frame) (inputs : List Codec.Bytes) :
    StepOK e.ev (e.acceptDecoded now start inputs).ev := by
  unfold acceptDecoded
  simp only
  split <;> exact StepOK_acceptInputs start inputs e 0

theorem StepOK_decodeInputs (e : Endpoint) (now : Nat) (start : Frame) (bytes : Codec.Bytes) :
    StepOK e.ev (e.decodeInputs now start bytes).ev := by
  unfold decodeInputs
  simp only
  split
  · exact StepOK.refl _
  · split
    · exact StepOK.refl _
    · exact StepOK_acceptDecoded { e with runningLastInputRecv := now } now start _

/-- `on_input` for packets that do not ask for a disconnect — the only ones an endpoint ever sends
(`sendPendingOutput_flag`). -/
theorem StepOK_onInput (e : Endpoint) (now : Nat) (status : List ConnStatus) (start ack : Frame) (bytes : Codec.Bytes) :
    StepOK e.ev (e.onInput now status false start ack bytes).ev := by
  unfold onInput
  split
  · exact StepOK.refl _
  · split
    · exact StepOK.refl _
    · have hev : (e.applyInputHeader status false ack).ev = e.ev := by
        unfold applyInputHeader
        simp only [Bool.false_eq_true, if_false]
        exact ev_popPendingOutput e ack
      exact hev ▸ StepOK_decodeInputs (e.applyInputHeader status false ack) now start bytes

theorem StepOK_noteReceived (e : Endpoint) (now : Nat) : StepOK e.ev (e.noteReceived now).ev := by
  unfold noteReceived
  simp only
  split
  · rename_i hc
    simp only [Bool.and_eq_true, Bool.not_eq_true', beq_iff_eq] at hc
    obtain ⟨⟨hdns, hdes⟩, hrun⟩ := hc
    exact StepOK_running hrun hrun .networkResumed rfl (by rw [hdes, hdns]; rfl)
  · exact StepOK.refl _

theorem StepOK_onSyncReply (e : Endpoint) (now magic random : Nat) :
    StepOK e.ev (e.onSyncReply now magic random).ev := by
  unfold onSyncReply
  split
  · exact StepOK.refl _
  · rename_i hst
    have hst : e.state = .synchronizing := by simpa using hst
    split
    · exact StepOK.refl _
    · simp only
      intro lq hcons
      obtain ⟨rfl, h1, h2, hdns, hdes⟩ := (Cons_synchronizing hst).mp hcons
      split
      · rename_i hpos
        rw [ev_sendSyncRequest]
        refine ⟨[.synchronizing NUM_SYNC_PACKETS (NUM_SYNC_PACKETS - (e.syncRemaining - 1))], _, rfl, accList_one ?_,
          Iff.mpr (Cons_synchronizing hst) ⟨rfl, hpos, Nat.le_trans (Nat.sub_le _ _) h2, hdns, hdes⟩⟩
        have h3 : NUM_SYNC_PACKETS - (e.syncRemaining - 1) = NUM_SYNC_PACKETS - e.syncRemaining + 1 := by omega
        have h4 : NUM_SYNC_PACKETS - e.syncRemaining + 1 < NUM_SYNC_PACKETS := by omega
        show accEv (.sync (_ - e.syncRemaining)) (.synchronizing _ (_ - (e.syncRemaining - 1))) =
          some (.sync (_ - (e.syncRemaining - 1)))
        rw [h3]
        exact if_pos ⟨rfl, rfl, h4⟩
      · rename_i hpos
        have h3 : NUM_SYNC_PACKETS - e.syncRemaining + 1 = NUM_SYNC_PACKETS := by omega
        exact ⟨[.synchronized], .running false, rfl, accList_one (if_pos h3),
          Iff.mpr (Cons_running rfl) (by rw [hdes, hdns]; rfl)⟩

def Ordinary (msg : Msg) : Prop := ∀ st sf af bytes, msg.body ≠ .input st true sf af bytes

theorem StepOK_handleMessage (e e' : Endpoint) (now : Nat) (msg : Msg) (hord : Ordinary msg)
    (h : e.handleMessage now msg = .ok e') : StepOK e.ev e'.ev := by
  rcases handleMessage_ok h with ⟨_, rfl⟩ | ⟨_, hk⟩
  · exact StepOK.refl _
  · refine (StepOK_noteReceived e now).trans ?_
    rcases hk with ⟨hev, _⟩ | ⟨r, _, rfl⟩ | ⟨st, dr, sf, af, bytes, hb, rfl⟩
    · exact StepOK_of_ev hev
    · exact StepOK_onSyncReply _ now _ r
    · cases dr with
      | true => exact absurd hb (hord st sf af bytes)
      | false => exact StepOK_onInput _ now st sf af bytes

theorem StepOK_checkTimeouts (e : Endpoint) (now : Nat) (hrun : e.state = .running) :
    StepOK e.ev (e.checkTimeouts now).ev := by
  unfold checkTimeouts
  simp only
  by_cases c1 : (!e.disconnectNotifySent && !e.disconnectEventSent &&
      decide (e.lastRecvTime + e.disconnectNotifyStart < now)) = true
  · simp only [c1, if_true]
    simp only [Bool.and_eq_true, Bool.not_eq_true'] at c1
    obtain ⟨⟨hdns, hdes⟩, _⟩ := c1
    refine (StepOK_interrupted e hrun hdns hdes ((e.disconnectTimeout - e.disconnectNotifyStart) / 1000)).trans ?_
    split
    · exact StepOK_disconnected _ hrun hdes
    · exact StepOK.refl _
  · simp only [c1, Bool.false_eq_true, if_false]
    split
    · rename_i c2
      simp only [Bool.and_eq_true, Bool.not_eq_true'] at c2
      exact StepOK_disconnected e hrun c2.1
    · exact StepOK.refl _

theorem StepOK_pollState (e e' : Endpoint) (now : Nat) (cs : List ConnStatus) (h : e.pollState now cs = .ok e') :
    StepOK e.ev e'.ev := by
  cases hst : e.state with
  | synchronizing => exact StepOK_of_ev (pollState_synchronizing hst h)
  | running =>
    obtain ⟨e1, hev, rfl⟩ := pollState_running hst h
    exact (StepOK_of_ev hev).trans (StepOK_checkTimeouts e1 now ((ev_eq_iff.mp hev).1.trans hst))
  | disconnected =>
    unfold pollState at h
    simp only [hst] at h
    cases pure_ok h
    split
    · exact StepOK_frozen (Or.inr rfl) rfl
    · exact StepOK.refl _
  | initializing | shutdown =>
    unfold pollState at h
    simp only [hst] at h
    cases pure_ok h
    exact StepOK.refl _

theorem StepOK_sendInput (e e' : Endpoint) (now : Nat) (inputs : List (Nat × PlayerInput)) (cs : List ConnStatus)
    (h : e.sendInput now inputs cs = .ok e') : StepOK e.ev e'.ev := by
  unfold sendInput at h
  split at h
  · cases pure_ok h; exact StepOK.refl _
  · rename_i hst
    have hrun : e.state = .running := by simpa using hst
    obtain ⟨data, _, h⟩ := bind_ok h
    refine StepOK.trans ?_ (StepOK_of_ev (ev_sendPendingOutput h))
    split
    · rename_i hcap
      simp only [Bool.and_eq_true, Bool.not_eq_true'] at hcap
      exact StepOK_disconnected e hrun hcap.2
    · exact StepOK.refl _

theorem StepOK_disconnect (e : Endpoint) (now : Nat) : StepOK e.ev (e.disconnect now).ev := by
  unfold disconnect
  split
  · exact StepOK.refl _
  · exact StepOK_frozen (Or.inl rfl) rfl

theorem StepOK_synchronize (e e' : Endpoint) (now : Nat) (h : e.synchronize now = .ok e') :
    StepOK e.ev e'.ev := by
  unfold synchronize at h
  obtain ⟨hi, h⟩ := ensure_bind_ok h
  cases pure_ok h
  have hini : e.state = .initializing := by simpa using hi
  rw [ev_sendSyncRequest]
  intro lq hcons
  obtain ⟨rfl, hdns, hdes⟩ := (Cons_initializing hini).mp hcons
  exact ⟨[], _, by simp [ev], rfl,
    Iff.mpr (Cons_synchronizing rfl) ⟨by simp, (by decide : 1 ≤ NUM_SYNC_PACKETS), Nat.le_refl _, hdns, hdes⟩⟩

/-- The steps of an endpoint as its session drives it. A poll hands the queued events to the
session, which disconnects the endpoint when it finds `Disconnected` among them. -/
inductive EvStep : (Endpoint × List ProtoEvent) → (Endpoint × List ProtoEvent) → Prop
  | handle (e e' : Endpoint) (out : List ProtoEvent) (now : Nat) (msg : Msg) : Ordinary msg →
      e.handleMessage now msg = .ok e' → EvStep (e, out) (e', out)
  | poll (e e' : Endpoint) (out evs : List ProtoEvent) (now : Nat) (cs : List ConnStatus) :
      e.poll now cs = .ok (e', evs) →
      EvStep (e, out) (if evs.contains .disconnected then e'.disconnect now else e', out ++ evs)
  | sendInput (e e' : Endpoint) (out : List ProtoEvent) (now : Nat) (inputs : List (Nat × PlayerInput))
      (cs : List ConnStatus) : e.sendInput now inputs cs = .ok e' → EvStep (e, out) (e', out)
  | disconnect (e : Endpoint) (out : List ProtoEvent) (now : Nat) : EvStep (e, out) (e.disconnect now, out)
  | synchronize (e e' : Endpoint) (out : List ProtoEvent) (now : Nat) :
      e.synchronize now = .ok e' → EvStep (e, out) (e', out)

inductive EvStar : (Endpoint × List ProtoEvent) → (Endpoint × List ProtoEvent) → Prop
  | refl (x) : EvStar x x
  | step (x y z) : EvStar x y → EvStep y z → EvStar x z

def EvInv (x : Endpoint × List ProtoEvent) : Prop :=
  ∃ ls lq, accList (.sync 0) x.2 = some ls ∧ accList ls x.1.eventQueue = some lq ∧ Cons x.1.ev lq

theorem EvInv_append (e e' : Endpoint) (out : List ProtoEvent) (h : EvInv (e, out)) (hs : StepOK e.ev e'.ev) :
    EvInv (e', out) := by
  obtain ⟨ls, lq, h1, h2, h3⟩ := h
  obtain ⟨new, lq', hq, ha, hc⟩ := hs lq h3
  refine ⟨ls, lq', h1, ?_, hc⟩
  show accList ls e'.eventQueue = some lq'
  rw [show e'.eventQueue = e.eventQueue ++ new from hq, accList_append, h2]; exact ha

theorem EvInv_step (x y : Endpoint × List ProtoEvent) (h : EvInv x) (hs : EvStep x y) : EvInv y := by
  cases hs with
  | handle e e' out now msg hord hm => exact EvInv_append e e' out h (StepOK_handleMessage e e' now msg hord hm)
  | sendInput e e' out now inputs cs hsi => exact EvInv_append e e' out h (StepOK_sendInput e e' now inputs cs hsi)
  | synchronize e e' out now hsy => exact EvInv_append e e' out h (StepOK_synchronize e e' now hsy)
  | disconnect e out now => exact EvInv_append e _ out h (StepOK_disconnect e now)
  | poll e e' out evs now cs hp =>
    obtain ⟨e1, hps, rfl, rfl⟩ := poll_ok hp
    obtain ⟨ls, lq, h1, h2, h3⟩ := EvInv_append e e1 out h (StepOK_pollState e e1 now cs hps)
    have hy : EvInv ({ e1 with eventQueue := [] }, out ++ e1.eventQueue) :=
      ⟨lq, lq, by rw [accList_append, h1]; exact h2, rfl, h3⟩
    split
    · exact EvInv_append _ _ _ hy (StepOK_disconnect _ now)
    · exact hy

/-- L-events, behind `C12_event_language`: what one endpoint has handed out along any run is a prefix of a
word of the language in the header (`accList (.sync 0)` accepts it). -/
theorem EvInv_run (x y : Endpoint × List ProtoEvent) (h : EvInv x) (hr : EvStar x y) : EvInv y := by
  induction hr with
  | refl => exact h
  | step y z _ hs ih => exact EvInv_step y z ih hs

/-- Every Input message an endpoint queues has `disconnect_requested = false`: it only sends inputs
while Running. (So peers' Input packets are `Ordinary`.) -/
theorem sendPendingOutput_flag (e e' : Endpoint) (now : Nat) (cs : List ConnStatus) (hrun : e.state = .running)
    (h : e.sendPendingOutput now cs = .ok e') :
    ∀ m ∈ e'.sendQueue, m ∈ e.sendQueue ∨ ∃ st sf af bytes, m.body = .input st false sf af bytes := by
  rcases sendPendingOutput_ok h with ⟨_, rfl⟩ | ⟨_, _, _, rfl⟩
  · exact fun m hm => Or.inl hm
  · intro m hm
    simp only [queueMessage, List.mem_append, List.mem_singleton] at hm
    rcases hm with hm | hm
    · exact Or.inl hm
    · rw [hm, hrun]
      exact Or.inr ⟨_, _, _, _, rfl⟩

end Endpoint
end Ggrs
