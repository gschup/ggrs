/-
The endpoint model (Model/Protocol.lean): which fields each handler can touch, what a successful step is.
Trap: a step that changes the goal only up to defeq (`unfold`, `show`, `simp only` on a `let`) while it
holds a projection of `periodicReports …`, `retryPending …` or `pollState …` makes the kernel compare the
timer literal with a variable (`Nat.decLt (x + 200000) now`) by unary counting. So these proofs rewrite
(`rw`, `split`) with the endpoint in a variable, and users need not unfold the three functions.
-/
import GgrsModel.Model.Protocol
import GgrsModel.Proofs.Monad

namespace Ggrs.Endpoint

structure Hs where
  state : ProtoState
  syncRemaining : Nat
  deriving DecidableEq

def hs (e : Endpoint) : Hs := ⟨e.state, e.syncRemaining⟩

/-- What the event language needs to know of an endpoint. -/
structure Ev where
  state : ProtoState
  syncRemaining : Nat
  dns : Bool
  des : Bool
  queue : List ProtoEvent

def ev (e : Endpoint) : Ev := ⟨e.state, e.syncRemaining, e.disconnectNotifySent, e.disconnectEventSent, e.eventQueue⟩

theorem hs_eq_iff {e e' : Endpoint} : e'.hs = e.hs ↔ e'.state = e.state ∧ e'.syncRemaining = e.syncRemaining := by
  simp only [hs, Hs.mk.injEq]

theorem ev_eq_iff {e e' : Endpoint} : e'.ev = e.ev ↔ e'.state = e.state ∧ e'.syncRemaining = e.syncRemaining ∧
    e'.disconnectNotifySent = e.disconnectNotifySent ∧ e'.disconnectEventSent = e.disconnectEventSent ∧
    e'.eventQueue = e.eventQueue := by
  simp only [ev, Ev.mk.injEq]

theorem hs_of_ev {e e' : Endpoint} (h : e'.ev = e.ev) : e'.hs = e.hs :=
  hs_eq_iff.mpr ⟨(ev_eq_iff.mp h).1, (ev_eq_iff.mp h).2.1⟩

@[simp] theorem ev_queueMessage (e : Endpoint) (now : Nat) (b : MsgBody) : (e.queueMessage now b).ev = e.ev := rfl

@[simp] theorem ev_sendInputAck (e : Endpoint) (now : Nat) : (e.sendInputAck now).ev = e.ev := rfl

@[simp] theorem hs_sendInputAck (e : Endpoint) (now : Nat) : (e.sendInputAck now).hs = e.hs := rfl

@[simp] theorem ev_popPendingOutput (e : Endpoint) (f : Frame) : (e.popPendingOutput f).ev = e.ev := rfl

theorem ev_takeNonce (e : Endpoint) : e.takeNonce.1.ev = e.ev := by
  unfold takeNonce; split <;> rfl

theorem ev_sendSyncRequest (e : Endpoint) (now : Nat) : (e.sendSyncRequest now).ev = e.ev :=
  ev_takeNonce { e with lastSyncRequestTime := now }

theorem sendPendingOutput_ok {e e' : Endpoint} {now : Nat} {cs : List ConnStatus}
    (hs : e.sendPendingOutput now cs = .ok e') :
    (e.pendingOutput = [] ∧ e' = e) ∨
    (∃ front rest, e.pendingOutput = front :: rest ∧
      e' = e.queueMessage now (.input cs (e.state == .disconnected) front.frame e.lastRecvFrame
        (Codec.encode e.lastAckedInput.bytes (e.pendingOutput.map (·.bytes))))) := by
  unfold sendPendingOutput at hs
  cases hp : e.pendingOutput with
  | nil =>
    simp only [hp] at hs
    exact Or.inl ⟨rfl, (pure_ok hs).symm⟩
  | cons front rest =>
    simp only [hp] at hs
    exact Or.inr ⟨front, rest, rfl, (pure_ok (ensure_bind_ok hs).2).symm⟩

theorem ev_sendPendingOutput {e e' : Endpoint} {now : Nat} {cs : List ConnStatus}
    (h : e.sendPendingOutput now cs = .ok e') : e'.ev = e.ev := by
  rcases sendPendingOutput_ok h with ⟨_, rfl⟩ | ⟨_, _, _, rfl⟩ <;> rfl

theorem ev_retryPending {e e' : Endpoint} {now : Nat} {cs : List ConnStatus}
    (h : e.retryPending now cs = .ok e') : e'.ev = e.ev := by
  rw [retryPending] at h
  by_cases hc : e.runningLastInputRecv + ms RUNNING_RETRY_INTERVAL < now
  · rw [if_pos hc] at h
    obtain ⟨e1, h1, h⟩ := bind_ok h
    cases pure_ok h
    exact (ev_sendPendingOutput h1 : e1.ev = e.ev)
  · rw [if_neg hc] at h
    cases pure_ok h
    rfl

theorem ev_periodicReports (e : Endpoint) (now : Nat) : (e.periodicReports now).ev = e.ev := by
  unfold periodicReports sendQualityReport
  simp only
  split <;> split <;> rfl

theorem hs_checkTimeouts (e : Endpoint) (now : Nat) : (e.checkTimeouts now).hs = e.hs := by
  unfold checkTimeouts
  simp only
  split <;> split <;> rfl

theorem noteReceived_hs (e : Endpoint) (now : Nat) :
    (e.noteReceived now).state = e.state ∧ (e.noteReceived now).syncRemaining = e.syncRemaining ∧
    (e.noteReceived now).syncRandomRequests = e.syncRandomRequests ∧ (e.noteReceived now).remoteMagic = e.remoteMagic := by
  unfold noteReceived
  simp only
  split <;> exact ⟨rfl, rfl, rfl, rfl⟩

theorem hs_noteReceived (e : Endpoint) (now : Nat) : (e.noteReceived now).hs = e.hs :=
  hs_eq_iff.mpr ⟨(noteReceived_hs e now).1, (noteReceived_hs e now).2.1⟩

theorem onSyncReply_unmatched {e : Endpoint} {now magic r : Nat}
    (h : ¬ (e.state = .synchronizing ∧ e.syncRandomRequests.contains r = true)) : e.onSyncReply now magic r = e := by
  unfold onSyncReply
  split
  · rfl
  · split
    · rfl
    · rename_i h1 h2
      exact absurd ⟨by simpa using h1, by simpa using h2⟩ h

theorem onSyncReply_matched (e : Endpoint) (now magic r : Nat) (hst : e.state = .synchronizing)
    (hc : e.syncRandomRequests.contains r = true) :
    (e.onSyncReply now magic r).state = (if e.syncRemaining - 1 > 0 then .synchronizing else .running) ∧
    (e.onSyncReply now magic r).syncRemaining = e.syncRemaining - 1 := by
  unfold onSyncReply
  rw [if_neg (by rw [hst]; decide), if_neg (by rw [hc]; decide)]
  simp only
  split
  · obtain ⟨h1, h2, _⟩ := ev_eq_iff.mp (ev_sendSyncRequest
      { e with syncRandomRequests := e.syncRandomRequests.filter (· != r), syncRemaining := e.syncRemaining - 1,
               eventQueue := e.eventQueue ++
                 [.synchronizing NUM_SYNC_PACKETS (NUM_SYNC_PACKETS - (e.syncRemaining - 1))] } now)
    exact ⟨h1.trans hst, h2⟩
  · exact ⟨rfl, rfl⟩

theorem acceptInputs_preserves {P : Endpoint → Prop}
    (hstore : ∀ e f inp pis, P e → P (e.storeFrame f inp pis)) (sf : Frame) :
    ∀ (inputs : List Codec.Bytes) (e : Endpoint) (i : Nat), P e → P (acceptInputs e sf inputs i).1 := by
  intro inputs
  induction inputs with
  | nil => intro e i h; exact h
  | cons x xs ih =>
    intro e i h
    unfold acceptInputs
    simp only
    split
    · exact ih e (i + 1) h
    · split
      · exact h
      · exact ih _ (i + 1) (hstore _ _ _ _ h)

theorem hs_acceptInputs (sf : Frame) (inputs : List Codec.Bytes) (e : Endpoint) (i : Nat) :
    (acceptInputs e sf inputs i).1.hs = e.hs :=
  acceptInputs_preserves (P := fun e' => e'.hs = e.hs) (fun _ _ _ _ h => h) sf inputs e i rfl

theorem hs_applyInputHeader (e : Endpoint) (st : List ConnStatus) (dr : Bool) (af : Frame) :
    (e.applyInputHeader st dr af).hs = e.hs := by
  unfold applyInputHeader
  simp only
  split
  · split <;> rfl
  · rfl

theorem hs_acceptDecoded (e : Endpoint) (now : Nat) (sf : Frame) (inputs : List Codec.Bytes) :
    (e.acceptDecoded now sf inputs).hs = e.hs := by
  unfold acceptDecoded
  simp only
  split <;> exact hs_acceptInputs sf inputs e 0

theorem hs_decodeInputs (e : Endpoint) (now : Nat) (sf : Frame) (bytes : Codec.Bytes) :
    (e.decodeInputs now sf bytes).hs = e.hs := by
  unfold decodeInputs
  simp only
  split
  · rfl
  · split
    · rfl
    · exact hs_acceptDecoded _ now sf _

/-- The last step of `acceptDecoded`: forget what is older than `2 * max_prediction` frames below
the newest one. -/
def pruneRecv (e : Endpoint) : Endpoint :=
  { e with recvInputs := e.recvInputs.filter fun p => decide (p.1 ≥ e.lastRecvFrame - 2 * (e.maxPrediction : Int)) }

theorem decodeInputs_of_none {e : Endpoint} {now : Nat} {start : Frame} {bytes : Codec.Bytes}
    (hl : alookup (if e.lastRecvFrame == NULL_FRAME then NULL_FRAME else start - 1) e.recvInputs = none) :
    e.decodeInputs now start bytes = e.sendInputAck now := by
  unfold decodeInputs
  simp only [hl]

theorem decodeInputs_of_error {e : Endpoint} {now : Nat} {start : Frame} {bytes ref : Codec.Bytes} {err : Codec.CodecErr}
    (hl : alookup (if e.lastRecvFrame == NULL_FRAME then NULL_FRAME else start - 1) e.recvInputs = some ref)
    (hd : Codec.decode ref bytes = .error err) :
    e.decodeInputs now start bytes = { e with runningLastInputRecv := now } := by
  unfold decodeInputs
  simp only [hl, hd]

theorem decodeInputs_of_accepted {e e2 : Endpoint} {now : Nat} {start : Frame} {bytes ref : Codec.Bytes}
    {inputs : List Codec.Bytes}
    (hl : alookup (if e.lastRecvFrame == NULL_FRAME then NULL_FRAME else start - 1) e.recvInputs = some ref)
    (hd : Codec.decode ref bytes = .ok inputs)
    (ha : acceptInputs { e with runningLastInputRecv := now } start inputs 0 = (e2, true)) :
    e.decodeInputs now start bytes = (e2.sendInputAck now).pruneRecv := by
  unfold decodeInputs acceptDecoded
  simp only [hl, hd, ha, Bool.not_true, Bool.false_eq_true, if_false]
  rfl

theorem hs_onInput (e : Endpoint) (now : Nat) (st : List ConnStatus) (dr : Bool) (sf af : Frame)
    (bytes : Codec.Bytes) : (e.onInput now st dr sf af bytes).hs = e.hs := by
  unfold onInput
  split
  · rfl
  · split
    · rfl
    · exact (hs_decodeInputs _ now sf bytes).trans (hs_applyInputHeader e st dr af)

theorem ev_onChecksumReport {e e' : Endpoint} {cs : Nat} {f : Frame} (h : e.onChecksumReport cs f = .ok e') :
    e'.ev = e.ev := by
  unfold onChecksumReport at h
  simp only at h
  split at h
  · obtain ⟨_, _, h⟩ := bind_ok h
    cases pure_ok h; rfl
  · obtain ⟨_, h, _⟩ := bind_ok h
    cases h

theorem pollState_synchronizing {e e' : Endpoint} {now : Nat} {cs : List ConnStatus}
    (hst : e.state = .synchronizing) (h : e.pollState now cs = .ok e') : e'.ev = e.ev := by
  unfold pollState at h
  simp only [hst] at h
  cases pure_ok h
  split
  · exact ev_sendSyncRequest e now
  · rfl

theorem pollState_running {e e' : Endpoint} {now : Nat} {cs : List ConnStatus}
    (hst : e.state = .running) (h : e.pollState now cs = .ok e') :
    ∃ e1 : Endpoint, e1.ev = e.ev ∧ e' = e1.checkTimeouts now := by
  unfold pollState at h
  simp only [hst] at h
  obtain ⟨e1, h1, h⟩ := bind_ok h
  exact ⟨e1.periodicReports now, (ev_periodicReports e1 now).trans (ev_retryPending h1), (pure_ok h).symm⟩

theorem poll_ok {e e' : Endpoint} {now : Nat} {cs : List ConnStatus} {evs : List ProtoEvent}
    (h : e.poll now cs = .ok (e', evs)) :
    ∃ e1, e.pollState now cs = .ok e1 ∧ e' = { e1 with eventQueue := [] } ∧ evs = e1.eventQueue := by
  obtain ⟨e1, h1, h⟩ := bind_ok h
  obtain ⟨rfl, rfl⟩ := Prod.mk.inj (pure_ok h)
  exact ⟨e1, h1, rfl, rfl⟩

theorem handleMessage_ok {e e' : Endpoint} {now : Nat} {msg : Msg} (h : e.handleMessage now msg = .ok e') :
    ((e.state = .shutdown ∨ (e.remoteMagic != 0 && msg.magic != e.remoteMagic) = true) ∧ e' = e) ∨
    ((e.remoteMagic != 0 && msg.magic != e.remoteMagic) = false ∧
      ((e'.ev = (e.noteReceived now).ev ∧ ∀ r, msg.body ≠ .syncReply r) ∨
       (∃ r, msg.body = .syncReply r ∧ e' = (e.noteReceived now).onSyncReply now msg.magic r) ∨
       (∃ st dr sf af bytes, msg.body = .input st dr sf af bytes ∧
          e' = (e.noteReceived now).onInput now st dr sf af bytes))) := by
  unfold handleMessage at h
  split at h
  · rename_i hsd
    exact Or.inl ⟨Or.inl (by simpa using hsd), (pure_ok h).symm⟩
  · split at h
    · rename_i hm
      exact Or.inl ⟨Or.inr hm, (pure_ok h).symm⟩
    · rename_i hm
      refine Or.inr ⟨Bool.eq_false_iff.mpr hm, ?_⟩
      split at h
      · cases pure_ok h; exact Or.inl ⟨rfl, by simp [*]⟩
      · cases pure_ok h; exact Or.inr (Or.inl ⟨_, ‹_›, rfl⟩)
      · cases pure_ok h; exact Or.inr (Or.inr ⟨_, _, _, _, _, ‹_›, rfl⟩)
      · cases pure_ok h; exact Or.inl ⟨rfl, by simp [*]⟩
      · cases pure_ok h; exact Or.inl ⟨rfl, by simp [*]⟩
      · cases pure_ok h; exact Or.inl ⟨rfl, by simp [*]⟩
      · exact Or.inl ⟨ev_onChecksumReport h, by simp [*]⟩
      · cases pure_ok h; exact Or.inl ⟨rfl, by simp [*]⟩

end Ggrs.Endpoint
