/- Site inventory of one source file; see Model/SiteInventory.lean. -/
import GgrsModel.Generated.Sites

namespace Ggrs.Rust.Sites

theorem inv_sync_layer : sync_layer =
  [("save", 1), ("data", 0), ("frame", 0), ("checksum", 0), ("load", 0), ("default", 0), ("clone", 0), ("fmt", 0),
   ("deref", 0), ("as_mut_dangerous", 0), ("new", 0), ("get_cell", 1), ("new", 0), ("current_frame", 0),
   ("advance_frame", 0), ("save_current_state", 0), ("set_frame_delay", 1), ("reset_prediction", 0),
   ("load_frame", 4), ("add_local_input", 1), ("add_remote_input", 0), ("synchronized_inputs", 0),
   ("confirmed_inputs", 0), ("set_last_confirmed_frame", 1), ("check_simulation_consistency", 0),
   ("saved_state_by_frame", 0), ("latest_saved_state_in_range", 0), ("last_saved_frame", 0),
   ("last_confirmed_frame", 0)] := rfl

end Ggrs.Rust.Sites
