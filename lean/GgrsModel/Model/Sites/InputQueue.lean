/- Site inventory of one source file; see Model/SiteInventory.lean. -/
import GgrsModel.Generated.Sites

namespace Ggrs.Rust.Sites

theorem inv_input_queue : input_queue =
  [("prev_pos", 0), ("new", 0), ("first_incorrect_frame", 0), ("set_frame_delay", 0), ("reset_prediction", 0),
   ("confirmed_input", 1), ("discard_confirmed_frames", 0), ("input", 4), ("add_input", 0),
   ("add_input_by_frame", 4), ("advance_queue_head", 1)] := rfl

end Ggrs.Rust.Sites
