/- Site inventory of one source file; see Model/SiteInventory.lean. -/
import GgrsModel.Generated.Sites

namespace Ggrs.Rust.Sites

theorem inv_p2p_session : p2p_session =
  [("fmt", 0), ("new", 0), ("local_player_handles", 0), ("remote_player_handles", 0), ("spectator_handles", 0),
   ("num_players", 0), ("num_spectators", 0), ("handles_by_address", 0), ("new", 0), ("add_local_input", 0),
   ("advance_frame", 0), ("advance_frame_with_wait", 0), ("advance_frame_with_wait_timeout", 0),
   ("advance_frame_after_poll", 0), ("poll_remote_clients", 0), ("disconnect_player", 0), ("set_input_delay", 0),
   ("network_stats", 2), ("confirmed_frame", 1), ("lockstep_current_frame_confirmed", 0),
   ("yield_lockstep_wait", 0), ("current_frame", 0), ("max_prediction", 0), ("in_lockstep_mode", 0),
   ("current_state", 0), ("events", 0), ("num_players", 0), ("num_spectators", 0), ("register_local_inputs", 1),
   ("queue_outgoing_local_input", 1), ("send_ready_outgoing_inputs_to_remotes", 1),
   ("next_complete_outgoing_input_frame", 0), ("local_player_handles", 0), ("remote_player_handles", 0),
   ("spectator_handles", 0), ("handles_by_address", 0), ("frames_ahead", 0), ("desync_detection", 0),
   ("disconnect_player_at_frame", 3), ("check_initial_sync", 0), ("advance_lockstep_frame", 1),
   ("advance_rollback_frame", 0), ("handle_rollback_and_save", 0), ("adjust_gamestate", 3),
   ("send_confirmed_inputs_to_spectators", 2), ("update_player_disconnects", 0), ("max_frame_advantage", 0),
   ("check_wait_recommendation", 1), ("check_last_saved_state", 1), ("handle_event", 2),
   ("compare_local_checksums_against_peers", 0), ("check_checksum_send_interval", 0)] := rfl

end Ggrs.Rust.Sites
