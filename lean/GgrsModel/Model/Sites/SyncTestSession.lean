/- Site inventory of one source file; see Model/SiteInventory.lean. -/
import GgrsModel.Generated.Sites

namespace Ggrs.Rust.Sites

theorem inv_sync_test_session : sync_test_session =
  [("new", 0), ("add_local_input", 0), ("advance_frame", 0), ("current_frame", 0), ("num_players", 0),
   ("max_prediction", 0), ("check_distance", 0), ("checksums_consistent", 0), ("adjust_gamestate", 2)] := rfl

end Ggrs.Rust.Sites
