/- Site inventory of one source file; see Model/SiteInventory.lean. -/
import GgrsModel.Generated.Sites

namespace Ggrs.Rust.Sites

theorem inv_builder : builder =
  [("default", 0), ("new", 0), ("add_player", 0), ("validate_player_handle", 0), ("with_max_prediction_window", 0),
   ("with_input_delay", 0), ("with_num_players", 0), ("with_sparse_saving_mode", 0),
   ("with_desync_detection_mode", 0), ("with_disconnect_timeout", 0), ("with_disconnect_notify_delay", 0),
   ("with_fps", 0), ("with_check_distance", 0), ("with_max_frames_behind", 0), ("with_catchup_speed", 0),
   ("start_p2p_session", 0), ("start_spectator_session", 0), ("start_synctest_session", 0), ("create_endpoint", 0)] := rfl

end Ggrs.Rust.Sites
