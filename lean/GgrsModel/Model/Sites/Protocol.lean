/- Site inventory of one source file; see Model/SiteInventory.lean. -/
import GgrsModel.Generated.Sites

namespace Ggrs.Rust.Sites

theorem inv_protocol : protocol =
  [("millis_since_epoch", 1), ("zeroed", 1), ("from_inputs", 2), ("to_player_inputs", 0), ("eq", 0), ("new", 0),
   ("update_local_frame_advantage", 0), ("network_stats", 0), ("handles", 0), ("is_synchronized", 0),
   ("is_running", 0), ("is_handling_message", 0), ("peer_connect_status", 0), ("disconnect", 0),
   ("synchronize", 1), ("average_frame_advantage", 0), ("peer_addr", 0), ("poll", 0), ("pop_pending_output", 1),
   ("send_all_messages", 0), ("send_input", 0), ("send_pending_output", 1), ("send_input_ack", 0),
   ("send_keep_alive", 0), ("send_sync_request", 0), ("send_quality_report", 1), ("queue_message", 0),
   ("handle_message", 0), ("on_sync_request", 0), ("on_sync_reply", 0), ("on_input", 0), ("on_input_ack", 0),
   ("on_quality_report", 0), ("on_quality_reply", 0), ("on_checksum_report", 1), ("last_recv_frame", 0),
   ("send_checksum_report", 0)] := rfl

end Ggrs.Rust.Sites
