/- Site inventory of one source file; see Model/SiteInventory.lean. -/
import GgrsModel.Generated.Sites

namespace Ggrs.Rust.Sites

theorem inv_time_sync : time_sync =
  [("default", 0), ("new", 0), ("advance_frame", 0), ("average_frame_advantage", 0)] := rfl

end Ggrs.Rust.Sites
