/- Site inventory of one source file; see Model/SiteInventory.lean. -/
import GgrsModel.Generated.Sites

namespace Ggrs.Rust.Sites

theorem inv_spectator_session : spectator_session =
  [("new", 0), ("current_state", 0), ("frames_behind_host", 1), ("network_stats", 0), ("events", 0),
   ("advance_frame", 0), ("poll_remote_clients", 0), ("current_frame", 0), ("num_players", 0),
   ("inputs_at_frame", 0), ("handle_event", 1)] := rfl

end Ggrs.Rust.Sites
