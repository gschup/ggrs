/- Site inventory of one source file; see Model/SiteInventory.lean. -/
import GgrsModel.Generated.Sites

namespace Ggrs.Rust.Sites

theorem inv_compression : compression =
  [("encode", 0), ("delta_encode", 0), ("decode", 0), ("rle_decode", 0), ("delta_decode", 0)] := rfl

end Ggrs.Rust.Sites
