/-
The inventory of the modelled state: for every struct and enum of the Rust source the model stands
for, the field / variant names the model was written against, checked against
`Generated/Shapes.lean` (regenerated from /repo's current source on every check run). A field or
variant added, removed or renamed in the source makes this file fail to compile — the model would
no longer cover the state it claims to cover — and every check reports the broken tie.

Correspondence of names (Rust → model, `snake_case` → `camelCase` unless noted):
* `InputQueue`: all eleven fields one to one (`Model/InputQueue.lean`).
* `SyncLayer`: `saved_states` → `cells` (frame tag and checksum per cell; the user's state data is
  the game's business, `Proofs/Replay.lean`), `input_queues` → `queues`.
* `UdpProtocol` → `Endpoint`: one to one (`sync_remaining_roundtrips` → `syncRemaining`,
  `time_sync_layer` → `timeSync`, `desync_detection` → `desyncInterval`); the model adds the tape of
  random numbers the environment supplies (`nonceTape`, `tapeUnderrun`).
* `P2PSession` → `P2P`: `sync_layer` → `sync`, `sparse_saving` → `sparse`, `state` → `running`,
  `player_reg` → `handles`/`remotes`/`spectators` (`PlayerRegistry`), `desync_detection` → `desync`;
  `socket` is not state of the model: received messages are an argument of `pollRemoteClients`,
  sent ones are collected in `outbox`; the predictor is a type parameter in Rust, `pred` here.
* `SpectatorSession` → `Spectator`: `state` → `running`, `socket` as above.
* `SyncTestSession` → `SyncTest`; `SessionBuilder` → `Builder` (`player_reg` → `handles`).
* `TimeSync`: `local`/`remote` → `localAdv`/`remoteAdv`.
-/
import GgrsModel.Generated.Shapes

namespace Ggrs.Rust

theorem inv_InputQueue : InputQueue.fields = ["head", "tail", "length", "first_frame", "last_added_frame",
  "last_user_frame", "first_incorrect_frame", "last_requested_frame", "frame_delay", "inputs", "prediction"] := rfl
theorem inv_PlayerInput : PlayerInput.fields = ["frame", "input"] := rfl
theorem inv_GameState : GameState.fields = ["frame", "data", "checksum"] := rfl
theorem inv_SavedStates : SavedStates.fields = ["states"] := rfl
theorem inv_SyncLayer : SyncLayer.fields = ["num_players", "max_prediction", "saved_states", "last_confirmed_frame",
  "last_saved_frame", "current_frame", "input_queues"] := rfl
theorem inv_TimeSync : TimeSync.fields = ["local", "remote"] := rfl
theorem inv_ConnectionStatus : ConnectionStatus.fields = ["disconnected", "last_frame"] := rfl
theorem inv_Input : Input.fields = ["peer_connect_status", "disconnect_requested", "start_frame", "ack_frame", "bytes"] := rfl
theorem inv_QualityReport : QualityReport.fields = ["frame_advantage", "ping"] := rfl
theorem inv_ChecksumReport : ChecksumReport.fields = ["checksum", "frame"] := rfl
theorem inv_MessageHeader : MessageHeader.fields = ["magic"] := rfl
theorem inv_MessageBody : MessageBody.variants = ["SyncRequest", "SyncReply", "Input", "InputAck", "QualityReport",
  "QualityReply", "ChecksumReport", "KeepAlive"] := rfl
theorem inv_InputBytes : InputBytes.fields = ["frame", "bytes"] := rfl
theorem inv_Event : Event.variants = ["Synchronizing", "Synchronized", "Input", "Disconnected", "NetworkInterrupted",
  "NetworkResumed"] := rfl
theorem inv_ProtocolState : ProtocolState.variants = ["Initializing", "Synchronizing", "Running", "Disconnected", "Shutdown"] := rfl
theorem inv_UdpProtocol : UdpProtocol.fields = ["num_players", "handles", "send_queue", "event_queue", "state",
  "sync_remaining_roundtrips", "sync_random_requests", "running_last_quality_report", "running_last_input_recv",
  "disconnect_notify_sent", "disconnect_event_sent", "disconnect_timeout", "disconnect_notify_start", "shutdown_timeout",
  "fps", "magic", "peer_addr", "remote_magic", "peer_connect_status", "pending_output", "last_acked_input", "max_prediction",
  "recv_inputs", "time_sync_layer", "local_frame_advantage", "remote_frame_advantage", "stats_start_time", "round_trip_time",
  "round_trip_time_measured",  "last_send_time", "last_sync_request_time", "last_recv_time", "pending_checksums", "desync_detection"] := rfl
theorem inv_PlayerRegistry : PlayerRegistry.fields = ["handles", "remotes", "spectators"] := rfl
theorem inv_P2PSession : P2PSession.fields = ["num_players", "max_prediction", "sync_layer", "sparse_saving", "disconnect_frame",
  "state", "fps", "socket", "player_reg", "local_connect_status", "next_spectator_frame", "next_recommended_sleep",
  "frames_ahead", "event_queue", "pending_local_inputs", "outgoing_local_inputs", "last_sent_outgoing_input_frame",
  "desync_detection", "local_checksum_history", "last_sent_checksum_frame"] := rfl
theorem inv_SpectatorSession : SpectatorSession.fields = ["state", "num_players", "inputs", "host_connect_status", "socket",
  "host", "event_queue", "current_frame", "last_recv_frame", "max_frames_behind", "catchup_speed"] := rfl
theorem inv_SyncTestSession : SyncTestSession.fields = ["num_players", "max_prediction", "check_distance", "sync_layer",
  "dummy_connect_status", "checksum_history", "local_inputs"] := rfl
theorem inv_SessionBuilder : SessionBuilder.fields = ["num_players", "local_players", "max_prediction", "fps", "sparse_saving",
  "desync_detection", "disconnect_timeout", "disconnect_notify_start", "player_reg", "input_delay", "check_dist",
  "max_frames_behind", "catchup_speed"] := rfl
theorem inv_GgrsError : GgrsError.variants = ["PredictionThreshold", "InvalidRequest", "MismatchedChecksum", "NotSynchronized",
  "SpectatorTooFarBehind", "NotEnoughData"] := rfl
theorem inv_DesyncDetection : DesyncDetection.variants = ["On", "Off"] := rfl
theorem inv_PlayerType : PlayerType.variants = ["Local", "Remote", "Spectator"] := rfl
theorem inv_SessionState : SessionState.variants = ["Synchronizing", "Running"] := rfl
theorem inv_InputStatus : InputStatus.variants = ["Confirmed", "Predicted", "Disconnected"] := rfl
theorem inv_GgrsEvent : GgrsEvent.variants = ["Synchronizing", "Synchronized", "Disconnected", "NetworkInterrupted",
  "NetworkResumed", "WaitRecommendation", "DesyncDetected"] := rfl
theorem inv_GgrsRequest : GgrsRequest.variants = ["SaveGameState", "LoadGameState", "AdvanceFrame"] := rfl

end Ggrs.Rust
