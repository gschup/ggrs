/-
Model of src/network/protocol.rs (`UdpProtocol`) and src/network/messages.rs.

Time is the virtual clock in microseconds; `now` is an argument of every entry point (the
virtual clock does not move during a call). Random numbers (handshake nonces) are taken from
`nonceTape`, which the environment fills. `HashMap`s are sorted association lists.
-/
import GgrsModel.Model.SyncLayer
import GgrsModel.Model.Codec

namespace Ggrs
open Codec (Bytes)

inductive MsgBody where
  | syncRequest (random : Nat)
  | syncReply (random : Nat)
  | input (status : List ConnStatus) (disconnectRequested : Bool) (startFrame ackFrame : Frame) (bytes : Bytes)
  | inputAck (ackFrame : Frame)
  | qualityReport (frameAdvantage : Int) (ping : Nat)
  | qualityReply (pong : Nat)
  | checksumReport (checksum : Nat) (frame : Frame)
  | keepAlive
  deriving Repr, DecidableEq, Inhabited

structure Msg where
  magic : Nat
  body : MsgBody
  deriving Repr, DecidableEq, Inhabited

inductive ProtoEvent where
  | synchronizing (total count : Nat)
  | synchronized
  | input (inp : PlayerInput) (player : Nat)
  | disconnected
  | networkInterrupted (disconnectTimeoutMs : Nat)
  | networkResumed
  deriving Repr, DecidableEq, Inhabited

inductive ProtoState where
  | initializing | synchronizing | running | disconnected | shutdown
  deriving Repr, DecidableEq, Inhabited

structure InputBytes where
  frame : Frame
  bytes : Bytes
  deriving Repr, DecidableEq, Inhabited

/-- Size of one serialized `Config::Input` (u8 under bincode). -/
def INPUT_SIZE : Nat := 1

def ms (n : Nat) : Nat := n * 1000

structure Endpoint where
  numPlayers : Nat
  handles : List Nat
  sendQueue : List Msg := []
  eventQueue : List ProtoEvent := []
  state : ProtoState := .initializing
  syncRemaining : Nat := NUM_SYNC_PACKETS
  syncRandomRequests : List Nat := []
  runningLastQualityReport : Nat
  runningLastInputRecv : Nat
  disconnectNotifySent : Bool := false
  disconnectEventSent : Bool := false
  disconnectTimeout : Nat
  disconnectNotifyStart : Nat
  shutdownTimeout : Nat
  fps : Nat
  magic : Nat
  peerAddr : Nat
  remoteMagic : Nat := 0
  peerConnectStatus : List ConnStatus
  pendingOutput : List InputBytes := []
  lastAckedInput : InputBytes
  maxPrediction : Nat
  recvInputs : List (Int × Bytes)
  timeSync : TimeSync := {}
  localFrameAdvantage : Int := 0
  remoteFrameAdvantage : Int := 0
  statsStartTime : Nat := 0
  roundTripTime : Nat := 0
  roundTripTimeMeasured : Bool := false
  lastSendTime : Nat
  lastSyncRequestTime : Nat
  lastRecvTime : Nat
  pendingChecksums : List (Int × Nat) := []
  desyncInterval : Option Nat
  nonceTape : List Nat := []
  /-- set when the model needed a random number the environment did not supply -/
  tapeUnderrun : Bool := false
  deriving Repr, Inhabited

namespace Endpoint

/-- `UdpProtocol::new`; timeouts in milliseconds, `now` in microseconds. -/
def new (handles : List Nat) (peerAddr numPlayers localPlayers maxPrediction : Nat)
    (disconnectTimeoutMs disconnectNotifyStartMs fps : Nat) (desync : Option Nat)
    (magic now : Nat) : Endpoint :=
  let handles := handles.mergeSort (· ≤ ·)
  { numPlayers, handles,
    runningLastQualityReport := now, runningLastInputRecv := now,
    disconnectTimeout := ms disconnectTimeoutMs, disconnectNotifyStart := ms disconnectNotifyStartMs,
    shutdownTimeout := now, fps, magic, peerAddr,
    peerConnectStatus := List.replicate numPlayers {},
    lastAckedInput := ⟨NULL_FRAME, List.replicate (INPUT_SIZE * localPlayers) 0⟩,
    maxPrediction,
    recvInputs := [(NULL_FRAME, List.replicate (INPUT_SIZE * handles.length) 0)],
    lastSendTime := now, lastSyncRequestTime := now, lastRecvTime := now,
    desyncInterval := desync }

/-- `last_recv_frame`: the largest key of `recv_inputs`. -/
def lastRecvFrame (e : Endpoint) : Frame :=
  match e.recvInputs with
  | [] => NULL_FRAME
  | (k, _) :: rest => rest.foldl (fun m p => max m p.1) k

def isSynchronized (e : Endpoint) : Bool :=
  e.state == .running || e.state == .disconnected || e.state == .shutdown

def isRunning (e : Endpoint) : Bool := e.state == .running

def queueMessage (e : Endpoint) (now : Nat) (body : MsgBody) : Endpoint :=
  { e with lastSendTime := now, sendQueue := e.sendQueue ++ [⟨e.magic, body⟩] }

def takeNonce (e : Endpoint) : Endpoint × Nat :=
  match e.nonceTape with
  | n :: rest => ({ e with nonceTape := rest }, n)
  | [] => ({ e with tapeUnderrun := true }, 0)

def sendSyncRequest (e : Endpoint) (now : Nat) : Endpoint :=
  let e := { e with lastSyncRequestTime := now }
  let (e, r) := e.takeNonce
  let e := { e with syncRandomRequests := if e.syncRandomRequests.contains r then e.syncRandomRequests
                                           else e.syncRandomRequests ++ [r] }
  e.queueMessage now (.syncRequest r)

def i32Max : Int := 2147483647
def i32Min : Int := -2147483648

/-- `update_local_frame_advantage` (i32 arithmetic, overflow-checked). -/
def updateLocalFrameAdvantage (e : Endpoint) (localFrame : Frame) : M Endpoint := do
  if localFrame == NULL_FRAME || e.lastRecvFrame == NULL_FRAME then return e
  let half := e.roundTripTime / 2
  let ping : Int := if half > 2147483647 then i32Max else half
  let prod := ping * e.fps
  ensure (prod ≤ i32Max) "update_local_frame_advantage: i32 multiply overflow"
  let remoteFrame := e.lastRecvFrame + Int.tdiv prod 1000
  ensure (remoteFrame ≤ i32Max) "update_local_frame_advantage: i32 add overflow"
  let adv := remoteFrame - localFrame
  ensure (i32Min ≤ adv && adv ≤ i32Max) "update_local_frame_advantage: i32 sub overflow"
  return { e with localFrameAdvantage := adv }

inductive StatsResult where
  | notSynchronized | notEnoughData
  | ok (ping sendQueueLen : Nat) (localFramesBehind remoteFramesBehind : Int)
  deriving Repr, DecidableEq

def networkStats (e : Endpoint) (now : Nat) : StatsResult :=
  if e.state != .synchronizing && e.state != .running then .notSynchronized
  else
    let seconds := (now / 1000 - e.statsStartTime) / 1000
    if seconds == 0 || !e.roundTripTimeMeasured then .notEnoughData
    else .ok e.roundTripTime e.pendingOutput.length e.localFrameAdvantage e.remoteFrameAdvantage

def disconnect (e : Endpoint) (now : Nat) : Endpoint :=
  if e.state == .shutdown then e
  else { e with state := .disconnected, shutdownTimeout := now + ms UDP_SHUTDOWN_TIMER }

def synchronize (e : Endpoint) (now : Nat) : M Endpoint := do
  ensure (e.state == .initializing) "synchronize: state != Initializing"
  let e := { e with state := .synchronizing, syncRemaining := NUM_SYNC_PACKETS,
                    statsStartTime := now / 1000 }
  return e.sendSyncRequest now

def popPendingOutput (e : Endpoint) (ackFrame : Frame) : Endpoint :=
  let rec go : List InputBytes → InputBytes → List InputBytes × InputBytes
    | [], la => ([], la)
    | x :: rest, la => if x.frame ≤ ackFrame then go rest x else (x :: rest, la)
  let (po, la) := go e.pendingOutput e.lastAckedInput
  { e with pendingOutput := po, lastAckedInput := la }

def sendPendingOutput (e : Endpoint) (now : Nat) (connectStatus : List ConnStatus) : M Endpoint := do
  match e.pendingOutput with
  | [] => return e
  | front :: _ =>
    ensure (e.lastAckedInput.frame == NULL_FRAME || e.lastAckedInput.frame + 1 == front.frame)
      "send_pending_output: gap between last acked and first pending input"
    let bytes := Codec.encode e.lastAckedInput.bytes (e.pendingOutput.map (·.bytes))
    return e.queueMessage now
      (.input connectStatus (e.state == .disconnected) front.frame e.lastRecvFrame bytes)

def sendInputAck (e : Endpoint) (now : Nat) : Endpoint :=
  e.queueMessage now (.inputAck e.lastRecvFrame)

def sendQualityReport (e : Endpoint) (now : Nat) : Endpoint :=
  let e := { e with runningLastQualityReport := now }
  let adv := max (-32768) (min 32767 e.localFrameAdvantage)
  e.queueMessage now (.qualityReport adv (now / 1000))

/-- The two silence timers of `poll` (Running state): NetworkInterrupted after the notify delay,
Disconnected after the disconnect timeout, each at most once per silence; nothing is reported once
the Disconnected event is out (it may have been queued by `send_input`'s cap). -/
def checkTimeouts (e : Endpoint) (now : Nat) : Endpoint :=
  let e := if !e.disconnectNotifySent && !e.disconnectEventSent && e.lastRecvTime + e.disconnectNotifyStart < now then
             { e with eventQueue := e.eventQueue ++
                        [.networkInterrupted ((e.disconnectTimeout - e.disconnectNotifyStart) / 1000)],
                      disconnectNotifySent := true }
           else e
  if !e.disconnectEventSent && e.lastRecvTime + e.disconnectTimeout < now then
    { e with eventQueue := e.eventQueue ++ [.disconnected], disconnectEventSent := true }
  else e

/-- Running state, first timer: resend the unacknowledged inputs if none arrived for a while. -/
def retryPending (e : Endpoint) (now : Nat) (connectStatus : List ConnStatus) : M Endpoint :=
  if e.runningLastInputRecv + ms RUNNING_RETRY_INTERVAL < now then do
    let e ← e.sendPendingOutput now connectStatus
    pure { e with runningLastInputRecv := now }
  else pure e

/-- Running state: the periodic quality report and the keep-alive. -/
def periodicReports (e : Endpoint) (now : Nat) : Endpoint :=
  let e := if e.runningLastQualityReport + ms QUALITY_REPORT_INTERVAL < now then e.sendQualityReport now else e
  if e.lastSendTime + ms KEEP_ALIVE_INTERVAL < now then e.queueMessage now .keepAlive else e

/-- The state-dependent part of `poll`. -/
def pollState (e : Endpoint) (now : Nat) (connectStatus : List ConnStatus) : M Endpoint :=
  match e.state with
  | .synchronizing =>
    pure (if e.lastSyncRequestTime + ms SYNC_RETRY_INTERVAL < now then e.sendSyncRequest now else e)
  | .running => do
    let e ← e.retryPending now connectStatus
    pure ((e.periodicReports now).checkTimeouts now)
  | .disconnected =>
    pure (if e.shutdownTimeout < now then { e with state := .shutdown } else e)
  | _ => pure e

/-- `poll`: timers. Returns the drained event queue. -/
def poll (e : Endpoint) (now : Nat) (connectStatus : List ConnStatus) : M (Endpoint × List ProtoEvent) := do
  let e ← e.pollState now connectStatus
  return ({ e with eventQueue := [] }, e.eventQueue)

/-- `send_all_messages`: drains the send queue; nothing leaves a shut-down endpoint. -/
def sendAllMessages (e : Endpoint) : Endpoint × List Msg :=
  if e.state == .shutdown then ({ e with sendQueue := [] }, [])
  else ({ e with sendQueue := [] }, e.sendQueue)

/-- `InputBytes::from_inputs`: inputs of the given handles in ascending handle order. -/
def fromInputs (numPlayers : Nat) (inputs : List (Nat × PlayerInput)) : M InputBytes := do
  let rec go : List Nat → Frame → Bytes → M InputBytes
    | [], frame, bytes => .ok ⟨frame, bytes⟩
    | h :: hs, frame, bytes =>
      match inputs.find? (·.1 == h) with
      | none => go hs frame bytes
      | some (_, inp) => do
        ensure (frame == NULL_FRAME || inp.frame == NULL_FRAME || frame == inp.frame)
          "from_inputs: inputs of different frames"
        go hs (if inp.frame != NULL_FRAME then inp.frame else frame) (bytes ++ [inp.input])
  go (List.range numPlayers) NULL_FRAME []

def sendInput (e : Endpoint) (now : Nat) (inputs : List (Nat × PlayerInput))
    (connectStatus : List ConnStatus) : M Endpoint := do
  if e.state != .running then return e
  let data ← fromInputs e.numPlayers inputs
  let e := { e with timeSync := e.timeSync.advanceFrame data.frame e.localFrameAdvantage e.remoteFrameAdvantage }
  let e := { e with pendingOutput := e.pendingOutput ++ [data] }
  let e := if e.pendingOutput.length > PENDING_OUTPUT_SIZE && !e.disconnectEventSent
           then { e with eventQueue := e.eventQueue ++ [.disconnected], disconnectEventSent := true } else e
  e.sendPendingOutput now connectStatus

/-- `InputBytes::to_player_inputs` for `u8` inputs: every player's slice must be exactly one
serialized input (trailing bytes are rejected, an empty slice is an error). -/
def toPlayerInputs (frame : Frame) (bytes : Bytes) (numPlayers : Nat) : Option (List PlayerInput) :=
  if numPlayers == 0 then none
  else if bytes.length % numPlayers != 0 then none
  else
    let size := bytes.length / numPlayers
    if size != INPUT_SIZE then none
    else some ((List.range numPlayers).map fun p => ⟨frame, (bytes.drop (p * size)).headD 0⟩)

def mergeStatus (mine theirs : List ConnStatus) : List ConnStatus :=
  mine.zipIdx.map fun (m, i) =>
    let t := theirs.getD i {}
    { disconnected := t.disconnected || m.disconnected, lastFrame := max m.lastFrame t.lastFrame }

/-- One accepted frame: remembered as a future decode reference, one Input event per player. -/
def storeFrame (e : Endpoint) (f : Frame) (inp : Bytes) (pis : List PlayerInput) : Endpoint :=
  { e with recvInputs := ainsert f inp e.recvInputs,
           eventQueue := e.eventQueue ++ pis.zipIdx.map fun (pi, j) => ProtoEvent.input pi (e.handles.getD j 0) }

/-- The loop over decoded inputs in `on_input`. `false` = a shape error made the function return
early (no ack, no pruning). -/
def acceptInputs (e : Endpoint) (startFrame : Frame) : List Bytes → Nat → Endpoint × Bool
  | [], _ => (e, true)
  | inp :: rest, i =>
    let inpFrame := startFrame + i
    if inpFrame ≤ e.lastRecvFrame then acceptInputs e startFrame rest (i + 1)
    else
      match toPlayerInputs inpFrame inp e.handles.length with
      | none => (e, false)
      | some pis => acceptInputs (e.storeFrame inpFrame inp pis) startFrame rest (i + 1)

/-- First half of `on_input` after the shape checks: apply the piggy-backed ack and the
connection-status gossip (or the disconnect request). -/
def applyInputHeader (e : Endpoint) (status : List ConnStatus) (disconnectRequested : Bool)
    (ackFrame : Frame) : Endpoint :=
  let e := e.popPendingOutput ackFrame
  if disconnectRequested then
    if e.state != .disconnected && !e.disconnectEventSent then
      { e with eventQueue := e.eventQueue ++ [.disconnected], disconnectEventSent := true }
    else e
  else { e with peerConnectStatus := mergeStatus e.peerConnectStatus status }

/-- What happens once a payload decoded: accept the new frames, acknowledge, prune. -/
def acceptDecoded (e : Endpoint) (now : Nat) (startFrame : Frame) (inputs : List Bytes) : Endpoint :=
  let r := acceptInputs e startFrame inputs 0
  if !r.2 then r.1
  else
    let e := r.1.sendInputAck now
    let last := e.lastRecvFrame
    { e with recvInputs := e.recvInputs.filter fun p => p.1 ≥ last - 2 * (e.maxPrediction : Int) }

/-- Second half of `on_input`: find the reference input, decode, accept. -/
def decodeInputs (e : Endpoint) (now : Nat) (startFrame : Frame) (bytes : Bytes) : Endpoint :=
  let decodeFrame := if e.lastRecvFrame == NULL_FRAME then NULL_FRAME else startFrame - 1
  match alookup decodeFrame e.recvInputs with
  | none =>
    -- the reference input is gone (pruned) or was never seen: not decodable, but acknowledged
    e.sendInputAck now
  | some reference =>
    let e := { e with runningLastInputRecv := now }
    match Codec.decode reference bytes with
    | .error _ => e
    | .ok inputs => e.acceptDecoded now startFrame inputs

def onInput (e : Endpoint) (now : Nat) (status : List ConnStatus) (disconnectRequested : Bool)
    (startFrame ackFrame : Frame) (bytes : Bytes) : Endpoint :=
  if !disconnectRequested && status.length != e.numPlayers then e
  else if startFrame < 0 then e
  else (e.applyInputHeader status disconnectRequested ackFrame).decodeInputs now startFrame bytes

def onSyncReply (e : Endpoint) (now : Nat) (magic random : Nat) : Endpoint :=
  if e.state != .synchronizing then e
  else if !e.syncRandomRequests.contains random then e
  else
    let e := { e with syncRandomRequests := e.syncRandomRequests.filter (· != random),
                      syncRemaining := e.syncRemaining - 1 }
    if e.syncRemaining > 0 then
      let e := { e with eventQueue := e.eventQueue ++
                  [ProtoEvent.synchronizing NUM_SYNC_PACKETS (NUM_SYNC_PACKETS - e.syncRemaining)] }
      e.sendSyncRequest now
    else
      { e with state := .running, eventQueue := e.eventQueue ++ [ProtoEvent.synchronized], remoteMagic := magic }

def onChecksumReport (e : Endpoint) (checksum : Nat) (frame : Frame) : M Endpoint := do
  let interval ← match e.desyncInterval with
    | some i => pure i
    | none => .error "on_checksum_report: debug_assert, desync detection is off"
  let pc := if e.pendingChecksums.length ≥ MAX_CHECKSUM_HISTORY_SIZE then
      let oldest : Int := frame - ((MAX_CHECKSUM_HISTORY_SIZE : Int) - 1) * (interval : Int)
      e.pendingChecksums.filter fun p => p.1 ≥ oldest
    else e.pendingChecksums
  return { e with pendingChecksums := ainsert frame checksum pc }

/-- Receive bookkeeping of `handle_message`: the silence timer restarts, an interrupted
connection is reported as resumed. -/
def noteReceived (e : Endpoint) (now : Nat) : Endpoint :=
  let e := { e with lastRecvTime := now }
  if e.disconnectNotifySent && !e.disconnectEventSent && e.state == .running then
    { e with disconnectNotifySent := false, eventQueue := e.eventQueue ++ [.networkResumed] }
  else e

def handleMessage (e : Endpoint) (now : Nat) (msg : Msg) : M Endpoint := do
  if e.state == .shutdown then return e
  if e.remoteMagic != 0 && msg.magic != e.remoteMagic then return e
  let e := e.noteReceived now
  match msg.body with
  | .syncRequest r => return e.queueMessage now (.syncReply r)
  | .syncReply r => return e.onSyncReply now msg.magic r
  | .input st dr sf af bytes => return e.onInput now st dr sf af bytes
  | .inputAck af => return e.popPendingOutput af
  | .qualityReport adv ping =>
    return ({ e with remoteFrameAdvantage := adv }).queueMessage now (.qualityReply ping)
  | .qualityReply pong => return { e with roundTripTime := now / 1000 - pong, roundTripTimeMeasured := true }
  | .checksumReport cs f => e.onChecksumReport cs f
  | .keepAlive => return e

def sendChecksumReport (e : Endpoint) (now : Nat) (frame : Frame) (checksum : Nat) : Endpoint :=
  e.queueMessage now (.checksumReport checksum frame)

end Endpoint
end Ggrs
