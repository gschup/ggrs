/-
Model of the input codec: src/network/compression.rs (encode, delta_encode, decode, rle_decode,
delta_decode), the encoder of the `bitfield-rle` crate and `varinteger::encode`.
Core Lean only (this file is linked into the compiled driver).

Every Rust function has one Lean function of the same name. `Except CodecErr` models the
`Result`; the one overflow-checked operation of the Rust decoder is the outcome `CodecErr.panic`,
which `decode` never returns (`C14_total`).
-/
import GgrsModel.Generated.Consts

deriving instance DecidableEq for Except

namespace Ggrs.Codec

abbrev Bytes := List UInt8

inductive CodecErr where
  | truncatedRunHeader
  | runHeaderOverflows
  | tooLarge
  | truncatedLiteralRun
  | truncatedLengthPrefix
  | truncatedInputData
  /-- an operation of the Rust code that would panic (overflow-checked arithmetic, slice index) -/
  | panic (site : Nat)
  deriving Repr, DecidableEq, Inhabited

/-! ### varinteger::encode (LEB128, u64) -/

/-- `varinteger::encode`: 7 bits per byte, least significant first, high bit = continuation.
Fuel 10 suffices for every `u64`. -/
def varintEncodeFuel : Nat → Nat → Bytes
  | 0, _ => []
  | fuel + 1, v =>
    if v > 127 then UInt8.ofNat (v % 128 + 128) :: varintEncodeFuel fuel (v / 128)
    else [UInt8.ofNat v]

def varintEncode (v : Nat) : Bytes := varintEncodeFuel 10 v

/-! ### bitfield_rle::encode -/

structure RleEncState where
  enc : Bytes := []
  len : Nat := 0
  contiguous : Bool := false
  prevBits : UInt8 := 0
  noncontiguous : Bytes := []
  deriving Repr

/-- `write_contiguous`: header = len*4 + 1 (+2 for 0xFF runs). -/
def writeContiguous (enc : Bytes) (len : Nat) (prevBits : UInt8) : Bytes :=
  enc ++ varintEncode (len * 4 + 1 + (if prevBits == 255 then 2 else 0))

/-- `write_noncontiguous`: header = len*2, then the literal bytes. -/
def writeNoncontiguous (enc : Bytes) (bits : Bytes) : Bytes :=
  enc ++ varintEncode (bits.length * 2) ++ bits

/-- One iteration of the loop in `encode_with_offset` (offset = 0), `i` is the loop index. -/
def rleEncStep (st : RleEncState) (i : Nat) (byte : UInt8) : RleEncState :=
  if st.contiguous && byte == st.prevBits then
    { st with len := st.len + 1 }
  else
    let st1 : RleEncState :=
      if st.contiguous then { st with enc := writeContiguous st.enc st.len st.prevBits } else st
    if byte == 0 || byte == 255 then
      let st2 : RleEncState :=
        if !st1.contiguous && i > 0 then
          { st1 with enc := writeNoncontiguous st1.enc st1.noncontiguous, noncontiguous := [] }
        else st1
      { st2 with len := 1, prevBits := byte, contiguous := true }
    else if !st1.contiguous then
      { st1 with noncontiguous := st1.noncontiguous ++ [byte] }
    else
      { st1 with contiguous := false, noncontiguous := st1.noncontiguous ++ [byte] }

def rleEncLoop : RleEncState → Nat → Bytes → RleEncState
  | st, _, [] => st
  | st, i, b :: rest => rleEncLoop (rleEncStep st i b) (i + 1) rest

def rleEncFinish (st : RleEncState) : Bytes :=
  if st.contiguous then writeContiguous st.enc st.len st.prevBits
  else writeNoncontiguous st.enc st.noncontiguous

/-- `bitfield_rle::encode`. -/
def rleEncode (buf : Bytes) : Bytes := rleEncFinish (rleEncLoop {} 0 buf)

/-! ### delta_encode -/

/-- XOR `input` against `base` up to the shorter of the two, remainder of `input` as is. -/
def xorWithBase : Bytes → Bytes → Bytes
  | [], inp => inp
  | _, [] => []
  | b :: bs, x :: xs => (b ^^^ x) :: xorWithBase bs xs

/-- `(len as u16).to_le_bytes()`. -/
def u16le (n : Nat) : Bytes := [UInt8.ofNat (n % 256), UInt8.ofNat (n / 256 % 256)]

def deltaEncode : Bytes → List Bytes → Bytes
  | _, [] => []
  | base, inp :: rest => u16le inp.length ++ xorWithBase base inp ++ deltaEncode inp rest

/-- `compression::encode`. -/
def encode (reference : Bytes) (inputs : List Bytes) : Bytes :=
  rleEncode (deltaEncode reference inputs)

/-! ### rle_decode (the checked decoder in compression.rs) -/

/-- The varint header loop of `rle_decode`. Returns the header and the unread rest. -/
def readHeader : (shift : Nat) → (header : Nat) → Bytes → Except CodecErr (Nat × Bytes)
  | _, _, [] => .error .truncatedRunHeader
  | shift, header, byte :: rest =>
    let bits := (byte &&& 0x7F).toNat
    if shift > 63 || (shift == 63 && bits > 1) then .error .runHeaderOverflows
    else
      let header' := header + bits * 2 ^ shift
      -- `header += bits << shift` on a u64 (overflow-checked build)
      if header' ≥ 2 ^ 64 then .error (.panic 1) else
      if byte &&& 0x80 == 0 then .ok (header', rest)
      else readHeader (shift + 7) header' rest

/-- Splits off exactly `n` elements: `some (reversed prefix, rest)`, or `none` if the list is
shorter than `n`. One pass (the Rust code compares `len` with `data.len() - pos` and slices). -/
def takeExact : Nat → Bytes → Bytes → Option (Bytes × Bytes)
  | 0, l, acc => some (acc, l)
  | _ + 1, [], _ => none
  | n + 1, x :: xs, acc => takeExact n xs (x :: acc)

/-- The outer loop of `rle_decode`. `outRev` is the output so far, newest byte first; `room` is
`MAX_DECODED_BYTES - output.len()` (Proofs/Delta.lean, `rleDecodeLoop_safe`: the subtraction
never underflows). Fuel = number of iterations, `data.length` always suffices because every
iteration consumes at least one byte. -/
def rleDecodeLoop : Nat → Bytes → Bytes → Nat → Except CodecErr Bytes
  | 0, _, outRev, _ => .ok outRev.reverse
  | fuel + 1, data, outRev, room =>
    if data.isEmpty then .ok outRev.reverse else
    match readHeader 0 0 data with
    | .error e => .error e
    | .ok (header, rest) =>
      if header % 2 == 1 then
        let len := header / 4
        if len > room then .error .tooLarge
        else
          let fill : UInt8 := if header / 2 % 2 == 0 then 0x00 else 0xFF
          rleDecodeLoop fuel rest (List.replicate len fill ++ outRev) (room - len)
      else
        let len := header / 2
        match takeExact len rest [] with
        | none => .error .truncatedLiteralRun
        | some (litRev, rest') =>
          if len > room then .error .tooLarge
          else rleDecodeLoop fuel rest' (litRev ++ outRev) (room - len)

def rleDecode (data : Bytes) : Except CodecErr Bytes :=
  rleDecodeLoop data.length data [] MAX_DECODED_BYTES

/-! ### delta_decode -/

/-- `decoded[i] ^= base[i]` over the common prefix. -/
def xorInPlace : Bytes → Bytes → Bytes
  | [], _ => []
  | d, [] => d
  | d :: ds, b :: bs => (d ^^^ b) :: xorInPlace ds bs

/-- `accRev` is the output so far, newest input first. -/
def deltaDecodeLoop : Nat → Bytes → Bytes → List Bytes → Except CodecErr (List Bytes)
  | 0, _, _, accRev => .ok accRev.reverse
  | fuel + 1, base, data, accRev =>
    match data with
    | [] => .ok accRev.reverse
    | [_] => .error .truncatedLengthPrefix
    | lo :: hi :: rest =>
      let len := lo.toNat + 256 * hi.toNat
      match takeExact len rest [] with
      | none => .error .truncatedInputData
      | some (encRev, rest') =>
        let decoded := xorInPlace encRev.reverse base
        deltaDecodeLoop fuel decoded rest' (decoded :: accRev)

def deltaDecode (reference : Bytes) (data : Bytes) : Except CodecErr (List Bytes) :=
  deltaDecodeLoop data.length reference data []

/-- `compression::decode`. -/
def decode (reference : Bytes) (data : Bytes) : Except CodecErr (List Bytes) :=
  match rleDecode data with
  | .error e => .error e
  | .ok buf => deltaDecode reference buf

end Ggrs.Codec
